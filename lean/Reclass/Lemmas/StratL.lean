/-
  Reclass.Lemmas.StratL — "no false loop", for the second half of property C08.  A rank function
  on the relevant reference paths stratifies the root (`Strat`): what resolving a path has to
  interpolate refers only to paths of strictly smaller rank.  Then no evaluator call returns
  `Err.loop` or `Err.depth _` (`sInv`); Bool checkers decide the premises for closed examples.
  Without premises, every `Err.loop` is raised by a reference whose rendered path is already in
  the `seen` set handed down along the chain of calls (`lInv`).
-/
import Reclass.Lemmas.Fuel
import Reclass.Lemmas.ClosedL
import Reclass.Lemmas.RefsL
namespace Reclass
namespace Strat

/-! ## Outcomes that are not a loop / depth error -/

def NotLD (e : Err) : Prop := e ≠ .loop ∧ ∀ c, e ≠ .depth c

def Res {α : Type} (Q : α → Prop) : R α → Prop
  | .error e => NotLD e
  | .ok a => Q a

@[simp] theorem res_error {α : Type} {Q : α → Prop} {e : Err} :
    Res Q (.error e : R α) ↔ NotLD e := Iff.rfl
@[simp] theorem res_ok {α : Type} {Q : α → Prop} {a : α} : Res Q (.ok a : R α) ↔ Q a := Iff.rfl

theorem Res.mono {α : Type} {Q Q' : α → Prop} {x : R α} (h : ∀ a, Q a → Q' a) (hx : Res Q x) :
    Res Q' x := by
  cases x with
  | error e => exact hx
  | ok a => exact h a hx

theorem Res.notLD {α : Type} {Q : α → Prop} {x : R α} (hx : Res Q x) {e : Err}
    (h : x = .error e) : NotLD e := by subst h; exact hx

theorem Res.ne_loop {α : Type} {Q : α → Prop} {x : R α} (hx : Res Q x) : x ≠ .error .loop :=
  fun h => (hx.notLD h).1 rfl

theorem Res.bind1 {α β : Type} {Q : α → Prop} {Q' : β → Prop} {x : R α} {f : α → R β}
    (hx : Res Q x) (hf : ∀ a, x = .ok a → Q a → Res Q' (f a)) : Res Q' (bind1 x f) := by
  cases x with
  | error e => exact hx
  | ok a => exact hf a rfl hx

theorem Res.bind2 {α β γ : Type} {Q : α × β → Prop} {Q' : γ → Prop} {x : R (α × β)}
    {f : α → β → R γ} (hx : Res Q x) (hf : ∀ a b, x = .ok (a, b) → Q (a, b) → Res Q' (f a b)) :
    Res Q' (bind2 x f) := by
  rcases x with e | ⟨a, b⟩
  · exact hx
  · exact hf a b rfl hx

theorem fuel_notLD : NotLD .fuel := by simp [NotLD]

theorem parse_res (s : Str) : Res (fun _ => True) (Token.parse s) := by
  unfold Token.parse
  split
  · trivial
  · split
    · trivial
    · exact ⟨fun h => (nomatch h), fun _ h => nomatch h⟩
    · exact fuel_notLD

theorem isHelper_notLD {e : Err} (h : e.isHelper = true) : NotLD e := by
  constructor
  · rintro rfl; cases h
  · rintro c rfl; cases h

theorem Res.of_helper {α : Type} {x : R α} (h : ErrIn (·.isHelper) x) : Res (fun _ => True) x := by
  cases x with
  | error e => exact isHelper_notLD (h e rfl)
  | ok _ => trivial

theorem flatL_notLD : ∀ (l : List Value) (st : RState) (e : Err), flatL l st = .error e → NotLD e :=
  fun l st e h => isHelper_notLD (flatL_helper l st e h)

theorem flatEs_notLD : ∀ (es : List (Key × Value)) (ck ok : List Key) (st : RState) (acc : Mapping)
    (e : Err), flatEs es ck ok st acc = .error e → NotLD e :=
  fun es ck ok st acc e h => isHelper_notLD (flatEs_helper es ck ok st acc e h)

theorem jsonOfL_notLD : ∀ (l : List Value) (e : Err), jsonOfL l = .error e → NotLD e :=
  fun l e h => isHelper_notLD (jsonOfL_helper l e h)

theorem jsonOfEs_notLD : ∀ (es : List (Key × Value)) (acc : List (Str × Str)) (e : Err),
    jsonOfEs es acc = .error e → NotLD e :=
  fun es acc e h => isHelper_notLD (jsonOfEs_helper es acc e h)

/-! ## Ranked references -/

section defs
variable (root : Mapping) (rk : Str → Nat) (P : Str → Prop)

mutual
/-- Every reference inside the token renders (whenever it renders) to a path satisfying `P` of
rank `< R`; references nested inside the path text have rank strictly below a bound `R'` that
the rendered path does not exceed. -/
def TokOK : Nat → Token → Prop
  | _, .lit _ => True
  | R, .combined ts => TokOKs R ts
  | R, .ref parts => ∃ R', R' < R ∧ TokOKs R' parts ∧
      ∀ n st path, slice n root parts st = .ok path → P path ∧ rk path ≤ R'
def TokOKs : Nat → List Token → Prop
  | _, [] => True
  | R, t :: ts => TokOK R t ∧ TokOKs R ts
end

mutual
/-- All references in all unparsed strings of the value (every layer, element, entry) have
rank `< R`. -/
def RefsIn (R : Nat) : Value → Prop
  | .str s => ∀ t, Token.parse s = .ok (some t) → TokOK root rk P R t
  | .vl l => RefsInL R l
  | .map es _ _ => RefsInEs R es
  | .seq l => RefsInL R l
  | _ => True
def RefsInL (R : Nat) : List Value → Prop
  | [] => True
  | v :: vs => RefsIn R v ∧ RefsInL R vs
def RefsInEs (R : Nat) : List (Key × Value) → Prop
  | [] => True
  | (_, v) :: es => RefsIn R v ∧ RefsInEs R es
end

/-- What `Token::resolve` meets on the way down a path: raw mappings are only looked into (the
entry for the next segment matters); of a layer list only the `String` layers are interpolated,
then the flattened layers are looked into; any other value — and the value finally reached —
is interpolated as a whole. -/
def ReachOK (R : Nat) : List Str → Value → Prop
  | [], v => RefsIn root rk P R v
  | key :: rest, v =>
    match v with
    | .map es _ _ => ∀ v', lookup (.str key) es = some v' → ReachOK R rest v'
    | .vl l =>
      (∀ x ∈ l, x.isStr = true → RefsIn root rk P R x) ∧
      ∀ (n : Nat) (st : RState) (i : List Value) (es : List (Key × Value)) (ck ok : List Key)
        (v' : Value), layersStr n root l st = .ok i → flatVl i .null st = .ok (.map es ck ok) →
        lookup (.str key) es = some v' → ReachOK R rest v'
    | v => RefsIn root rk P R v

/-- **Stratified root**: for every relevant path `p` (first segment `k0`, stored value `v0`),
everything resolution of `p` has to interpolate only refers to paths of strictly smaller rank. -/
def Strat : Prop :=
  ∀ p, P p → ∀ k0 segs v0, splitColon p = k0 :: segs → root.get (.str k0) = some v0 →
    ReachOK root rk P (rk p) segs v0

/-- The state leaves room for `R` more nested resolutions and has only seen paths of rank `≥ R`.
(`R = 0`: nothing will be resolved, any state will do.) -/
def Ok (R : Nat) (st : RState) : Prop :=
  (R = 0 ∨ st.depth + R ≤ maxDepth) ∧ ∀ q ∈ st.seen, R ≤ rk q

end defs

theorem ok_zero (rk : Str → Nat) (st : RState) : Ok rk 0 st :=
  ⟨Or.inl rfl, fun _ _ => Nat.zero_le _⟩

theorem pushListIndex_seen (st : RState) (idx : Nat) : (st.pushListIndex idx).seen = st.seen := by
  unfold RState.pushListIndex; split <;> rfl

theorem ok_pushListIndex {rk : Str → Nat} {R : Nat} {st : RState} (h : Ok rk R st) (idx : Nat) :
    Ok rk R (st.pushListIndex idx) := by
  unfold Ok
  rw [pushListIndex_seen, Termination.pushListIndex_depth]; exact h

theorem ok_pushMappingKey {rk : Str → Nat} {R : Nat} {st : RState} (h : Ok rk R st) (k : Key) :
    Ok rk R (st.pushMappingKey k) := h

section lemmas
variable {root : Mapping} {rk : Str → Nat} {P : Str → Prop}

mutual
theorem tokOK_weaken {P' : Str → Prop} (hPP : ∀ p, P p → P' p) : ∀ (t : Token) {R R2 : Nat},
    R ≤ R2 → TokOK root rk P R t → TokOK root rk P' R2 t
  | .lit _, _, _, _, _ => trivial
  | .combined ts, _, _, hle, h => tokOKs_weaken hPP ts hle h
  | .ref parts, _, _, hle, ⟨R', h1, h2, h3⟩ =>
    ⟨R', Nat.lt_of_lt_of_le h1 hle, tokOKs_weaken hPP parts (Nat.le_refl _) h2,
      fun n st path hs => ⟨hPP _ (h3 n st path hs).1, (h3 n st path hs).2⟩⟩
theorem tokOKs_weaken {P' : Str → Prop} (hPP : ∀ p, P p → P' p) : ∀ (ts : List Token) {R R2 : Nat},
    R ≤ R2 → TokOKs root rk P R ts → TokOKs root rk P' R2 ts
  | [], _, _, _, _ => trivial
  | t :: ts, _, _, hle, h => ⟨tokOK_weaken hPP t hle h.1, tokOKs_weaken hPP ts hle h.2⟩
end

mutual
theorem refsIn_weaken {P' : Str → Prop} (hPP : ∀ p, P p → P' p) : ∀ (v : Value) {R R2 : Nat},
    R ≤ R2 → RefsIn root rk P R v → RefsIn root rk P' R2 v
  | .str _, _, _, hle, h => fun t ht => tokOK_weaken hPP t hle (h t ht)
  | .vl l, _, _, hle, h | .seq l, _, _, hle, h => refsInL_weaken hPP l hle h
  | .map es _ _, _, _, hle, h => refsInEs_weaken hPP es hle h
  | .null, _, _, _, _ | .bool _, _, _, _, _ | .num _, _, _, _, _ | .lit _, _, _, _, _ => trivial
theorem refsInL_weaken {P' : Str → Prop} (hPP : ∀ p, P p → P' p) : ∀ (l : List Value) {R R2 : Nat},
    R ≤ R2 → RefsInL root rk P R l → RefsInL root rk P' R2 l
  | [], _, _, _, _ => trivial
  | v :: vs, _, _, hle, h => ⟨refsIn_weaken hPP v hle h.1, refsInL_weaken hPP vs hle h.2⟩
theorem refsInEs_weaken {P' : Str → Prop} (hPP : ∀ p, P p → P' p) : ∀ (es : List (Key × Value))
    {R R2 : Nat}, R ≤ R2 → RefsInEs root rk P R es → RefsInEs root rk P' R2 es
  | [], _, _, _, _ => trivial
  | (_, v) :: es, _, _, hle, h => ⟨refsIn_weaken hPP v hle h.1, refsInEs_weaken hPP es hle h.2⟩
end

theorem tokOKs_mono : ∀ (ts : List Token) {R R2 : Nat}, R ≤ R2 → TokOKs root rk P R ts →
    TokOKs root rk P R2 ts :=
  tokOKs_weaken fun _ h => h

theorem refsIn_mono : ∀ (v : Value) {R R2 : Nat}, R ≤ R2 → RefsIn root rk P R v → RefsIn root rk P R2 v :=
  refsIn_weaken fun _ h => h

theorem refsInL_mono : ∀ (l : List Value) {R R2 : Nat}, R ≤ R2 → RefsInL root rk P R l →
    RefsInL root rk P R2 l :=
  refsInL_weaken fun _ h => h

theorem refsInEs_mono : ∀ (es : List (Key × Value)) {R R2 : Nat}, R ≤ R2 →
    RefsInEs root rk P R es → RefsInEs root rk P R2 es :=
  refsInEs_weaken fun _ h => h

end lemmas

def refsPred (root : Mapping) (rk : Str → Nat) (P : Str → Prop) (R : Nat) : ValPred where
  P := RefsIn root rk P R
  PL := RefsInL root rk P R
  PEs := RefsInEs root rk P R
  nilL := trivial
  consL := fun _ _ => Iff.rfl
  nilEs := trivial
  consEs := fun _ _ _ => Iff.rfl
  map := fun _ _ _ => Iff.rfl
  seq := fun _ => Iff.rfl
  vlL := fun _ h => h
  null := trivial
  combine _ _ := combine_vl trivial fun _ _ => Iff.rfl

/-! ## The invariant of the 13-way evaluator on a stratified root -/

section inv
variable {root : Mapping} {rk : Str → Nat} {P : Str → Prop}

def NB (rk : Str → Nat) (P : Str → Prop) (R : Nat) (st st' : RState) : Prop :=
  ∀ q ∈ st'.seen, q ∈ st.seen ∨ (P q ∧ rk q < R)

theorem NB.refl (R : Nat) (st : RState) : NB rk P R st st := fun _ h => Or.inl h

theorem NB.mono {R1 R : Nat} {st st' : RState} (h : NB rk P R1 st st') (hle : R1 ≤ R) :
    NB rk P R st st' :=
  fun q hq => (h q hq).imp_right fun ⟨hp, hr⟩ => ⟨hp, Nat.lt_of_lt_of_le hr hle⟩

theorem NB.trans {R : Nat} {st st1 st2 : RState} (h1 : NB rk P R st st1)
    (h2 : NB rk P R st1 st2) : NB rk P R st st2 :=
  fun q hq => (h2 q hq).elim (h1 q) .inr

/-- Value and state handed on along a threaded chain, started from `st` at rank bound `R`: the
value's references are below some rank `R' ≤ R` for which the state is still fine, and the
state has only gained relevant paths of rank `< R`. -/
def Good (root : Mapping) (rk : Str → Nat) (P : Str → Prop) (R : Nat) (st : RState)
    (p : Value × RState) : Prop :=
  (∃ R', R' ≤ R ∧ RefsIn root rk P R' p.1 ∧ Ok rk R' p.2) ∧ NB rk P R st p.2

/-- Result of `interpolate`: reference-free value; state gained only paths of rank `< R`. -/
def Done (root : Mapping) (rk : Str → Nat) (P : Str → Prop) (R : Nat) (st : RState)
    (p : Value × RState) : Prop :=
  RefsIn root rk P 0 p.1 ∧ NB rk P R st p.2

theorem Done.good {R : Nat} {st : RState} {p : Value × RState} (h : Done root rk P R st p) :
    Good root rk P R st p :=
  ⟨⟨0, Nat.zero_le _, h.1, ok_zero rk p.2⟩, h.2⟩

theorem Good.refl {R : Nat} {v : Value} {st : RState} (hv : RefsIn root rk P R v)
    (hok : Ok rk R st) : Good root rk P R st (v, st) :=
  ⟨⟨R, Nat.le_refl _, hv, hok⟩, NB.refl R st⟩

theorem Good.trans {R R' : Nat} {st st1 : RState} {p : Value × RState}
    (hp : Good root rk P R' st1 p) (hnb : NB rk P R st st1) (hle : R' ≤ R) :
    Good root rk P R st p :=
  let ⟨⟨R2, h2, hv, hok⟩, hnb'⟩ := hp
  ⟨⟨R2, Nat.le_trans h2 hle, hv, hok⟩, hnb.trans (hnb'.mono hle)⟩

theorem Done.trans {R R' : Nat} {st st1 : RState} {p : Value × RState}
    (hp : Done root rk P R' st1 p) (hnb : NB rk P R st st1) (hle : R' ≤ R) :
    Done root rk P R st p :=
  ⟨hp.1, hnb.trans (hp.2.mono hle)⟩

theorem refsInEs_lookup {R : Nat} {es : List (Key × Value)} {k : Key} {v : Value}
    (h : RefsInEs root rk P R es) (hl : lookup k es = some v) : RefsIn root rk P R v :=
  (refsPred root rk P R).lookupEs h hl

mutual
theorem refsIn_of_strFree (R : Nat) : ∀ (v : Value), Termination.StrFree v → RefsIn root rk P R v
  | .str _, h => h.elim
  | .vl l, h | .seq l, h => refsInL_of_strFree R l h
  | .map es _ _, h => refsInEs_of_strFree R es h
  | .null, _ | .bool _, _ | .num _, _ | .lit _, _ => trivial
theorem refsInL_of_strFree (R : Nat) : ∀ (l : List Value), Termination.StrFreeL l →
    RefsInL root rk P R l
  | [], _ => trivial
  | v :: vs, h => ⟨refsIn_of_strFree R v h.1, refsInL_of_strFree R vs h.2⟩
theorem refsInEs_of_strFree (R : Nat) : ∀ (es : List (Key × Value)), Termination.StrFreeEs es →
    RefsInEs root rk P R es
  | [], _ => trivial
  | (_, v) :: es, h => ⟨refsIn_of_strFree R v h.1, refsInEs_of_strFree R es h.2⟩
end

theorem refsInL_mem {R : Nat} {l : List Value} (h : RefsInL root rk P R l) {x : Value}
    (hx : x ∈ l) : RefsIn root rk P R x := by
  induction l with
  | nil => cases hx
  | cons v vs ih =>
    rcases List.mem_cons.1 hx with rfl | hx
    · exact h.1
    · exact ih h.2 hx

/-- In any state: what `interpolate` returns is string-free. -/
theorem layersStr_refsIn {R : Nat} : ∀ (l : List Value) (n : Nat) (st : RState) (i : List Value),
    RefsInL root rk P R l → layersStr n root l st = .ok i → RefsInL root rk P R i := by
  intro l
  induction l with
  | nil =>
    intro n st i _ h
    cases n with
    | zero => cases h
    | succ n => cases h; trivial
  | cons v vs ih =>
    intro n st i hl h
    cases n with
    | zero => cases h
    | succ n =>
      obtain ⟨x, xs, rfl, h2, hx⟩ := layersStr_cons_ok h
      refine ⟨?_, ih n st xs hl.2 h2⟩
      rcases hx with ⟨-, rfl⟩ | ⟨-, st1, h1⟩
      · exact hl.1
      · exact refsIn_of_strFree R _ ((Termination.outAt n).interp _ _ _ _ _ h1).1

theorem reach_of_refsIn {R : Nat} : ∀ (segs : List Str) (v : Value),
    RefsIn root rk P R v → ReachOK root rk P R segs v
  | [], v, h => h
  | key :: rest, v, h => by
    cases v with
    | map es ck ok => exact fun v' hl => reach_of_refsIn rest v' (refsInEs_lookup h hl)
    | vl l =>
      refine ⟨fun x hx _ => refsInL_mem h hx, fun n st i es ck ok v' h1 h2 h3 => ?_⟩
      have hr : RefsIn root rk P R (.map es ck ok) :=
        (refsPred root rk P R).flatVl_pres i .null st _ (layersStr_refsIn l n st i h h1) trivial h2
      exact reach_of_refsIn rest v' (refsInEs_lookup hr h3)
    | _ => exact h

variable (root rk P) in
structure SInv (n : Nat) : Prop where
  interp : ∀ (R : Nat) (v : Value) (st : RState), RefsIn root rk P R v → Ok rk R st →
    Res (Done root rk P R st) (interp n root v st)
  interpL : ∀ (R : Nat) (l : List Value) (idx : Nat) (st : RState), RefsInL root rk P R l →
    Ok rk R st → Res (fun r => RefsInL root rk P 0 r) (interpL n root l idx st)
  interpEs : ∀ (R : Nat) (es : List (Key × Value)) (ck ok : List Key) (st : RState) (acc : Mapping),
    RefsInEs root rk P R es → Ok rk R st → RefsInEs root rk P 0 acc.es →
    Res (fun m => RefsInEs root rk P 0 m.es) (interpEs n root es ck ok st acc)
  interpVl : ∀ (R : Nat) (l : List Value) (r0 : Value) (st : RState), RefsInL root rk P R l →
    Ok rk R st → RefsIn root rk P 0 r0 →
    Res (fun r => RefsIn root rk P 0 r) (interpVl n root l r0 st)
  tokRender : ∀ (R : Nat) (t : Token) (st : RState), TokOK root rk P R t → Ok rk R st →
    Res (Done root rk P R st) (tokRender n root t st)
  tokResolve : ∀ (R : Nat) (t : Token) (st : RState), TokOK root rk P R t → Ok rk R st →
    Res (Good root rk P R st) (tokResolve n root t st)
  descend : ∀ (R : Nat) (v : Value) (segs : List Str) (st : RState) (path : Str),
    ReachOK root rk P R segs v → Ok rk R st →
    Res (Good root rk P R st) (descend n root v segs st path)
  finalLoop : ∀ (R : Nat) (v : Value) (st : RState), RefsIn root rk P R v → Ok rk R st →
    Res (Good root rk P R st) (finalLoop n root v st)
  interpStrOrVl : ∀ (R : Nat) (v : Value) (key : Str) (rest : List Str) (st : RState),
    ReachOK root rk P R (key :: rest) v → Ok rk R st →
    Res (fun p => (∃ R', R' ≤ R ∧ Ok rk R' p.2 ∧ ∀ es ck ok, p.1 = .map es ck ok →
        ∀ v', lookup (.str key) es = some v' → ReachOK root rk P R' rest v') ∧ NB rk P R st p.2)
      (interpStrOrVl n root v st)
  layersStr : ∀ (R : Nat) (l : List Value) (st : RState),
    (∀ x ∈ l, x.isStr = true → RefsIn root rk P R x) → Ok rk R st →
    Res (fun _ => True) (layersStr n root l st)
  slice : ∀ (R : Nat) (ts : List Token) (st : RState), TokOKs root rk P R ts → Ok rk R st →
    Res (fun _ => True) (slice n root ts st)
  strLoop : ∀ (R : Nat) (v : Value) (st : RState), RefsIn root rk P R v → Ok rk R st →
    Res (Good root rk P R st) (strLoop n root v st)
  sliceFinish : ∀ (R : Nat) (v : Value) (st : RState), RefsIn root rk P R v → Ok rk R st →
    Res (fun _ => True) (sliceFinish n root v st)

theorem sInv_zero : SInv root rk P 0 := by
  constructor <;> intros <;> exact fuel_notLD

theorem sInv_succ (hS : Strat root rk P) {n : Nat} (ih : SInv root rk P n) : SInv root rk P (n+1) where
  interp R v st hv hok := by
    cases v with
    | str s =>
      rw [interp_strB]
      refine (parse_res s).bind1 fun o h1 _ => ?_
      cases o with
      | none => exact ⟨trivial, NB.refl R st⟩
      | some t => exact ih.tokRender R t st (hv t h1) hok
    | map es ck ok =>
      rw [interp_mapB]
      exact (ih.interpEs R es ck ok st {} hv hok trivial).bind1
        fun m _ hm => ⟨hm, NB.refl R st⟩
    | seq l =>
      rw [interp_seqB]
      exact (ih.interpL R l 0 st hv hok).bind1 fun _ _ hl => ⟨hl, NB.refl R st⟩
    | vl l =>
      rw [interp_vlB]
      refine (ih.interpVl R l .null st hv hok trivial).bind1 fun r _ hr => ?_
      exact (ih.interp 0 r st hr (ok_zero rk st)).mono fun _ hp => hp.trans (NB.refl R st) (Nat.zero_le _)
    | _ => exact ⟨trivial, NB.refl R st⟩
  interpL R l idx st hl hok := by
    cases l with
    | nil => trivial
    | cons v vs =>
      rw [interpL_consB]
      refine (ih.interp R v _ hl.1 (ok_pushListIndex hok idx)).bind2 fun x _ _ hx => ?_
      exact (ih.interpL R vs (idx + 1) st hl.2 hok).bind1 fun _ _ hxs => ⟨hx.1, hxs⟩
  interpEs R es ck ok st acc hes hok hacc := by
    cases es with
    | nil => exact hacc
    | cons e rest =>
      obtain ⟨k, v⟩ := e
      rw [interpEs_consB]
      refine (ih.interp R v _ hes.1 (ok_pushMappingKey hok k)).bind2 fun v1 st1 _ hv1 => ?_
      refine (Res.of_helper (flat_helper v1 st1)).bind1 fun v2 h2 _ => ?_
      refine (Res.of_helper (insertImpl_helper acc k v2 _ _)).bind1 fun acc' h3 _ => ?_
      exact ih.interpEs R rest ck ok st acc' hes.2 hok ((refsPred root rk P 0).insertImpl_pres hacc
        ((refsPred root rk P 0).flat_pres v1 st1 v2 hv1.1 h2) h3)
  interpVl R l r0 st hl hok h0 := by
    cases l with
    | nil => exact h0
    | cons v vs =>
      rw [interpVl_consB]
      refine (ih.interp R v st hl.1 hok).bind2 fun x st1 _ hx => ?_
      refine (Res.of_helper (mergeV_helper r0 x st1)).bind1 fun r1 h2 _ => ?_
      exact ih.interpVl R vs r1 st hl.2 hok ((refsPred root rk P 0).mergeV_pres r0 x st1 r1 h0 hx.1 h2)
  tokRender R t st ht hok := by
    rw [tokRender_succB]
    refine (ih.tokResolve R t st ht hok).bind2 fun v st1 _ h => ?_
    obtain ⟨⟨R', hle, hv, hok'⟩, hnb⟩ := h
    split
    · exact (ih.interp R' v st1 hv hok').mono fun _ hp => hp.trans hnb hle
    · exact (Res.of_helper (rawString_helper v)).bind1 fun _ _ _ => ⟨trivial, hnb⟩
  tokResolve R t st ht hok := by
    cases t with
    | lit s => exact Good.refl trivial hok
    | combined ts =>
      rw [tokResolve_combinedB]
      exact (ih.slice R ts st ht hok).bind1 fun _ _ _ => Good.refl trivial hok
    | ref parts =>
      rw [tokResolve_refB]
      obtain ⟨R', hlt, hparts, hpath⟩ := ht
      obtain ⟨hroom, hseen⟩ := hok
      have hroom' : st.depth + R ≤ maxDepth := by omega
      rw [if_neg (by omega)]
      have hok1 : Ok rk R' { st with depth := st.depth + 1 } :=
        ⟨Or.inr (by simp only; omega), fun q hq => Nat.le_trans (Nat.le_of_lt hlt) (hseen q hq)⟩
      refine (ih.slice R' parts _ hparts hok1).bind1 fun path h1 _ => ?_
      obtain ⟨hP, hrk⟩ := hpath _ _ _ h1
      rw [if_neg fun hm => by have := hseen path hm; omega]
      split
      · simp [NotLD]
      next k0 segs hsp =>
        split
        · simp [NotLD]
        next v0 hg =>
          have hok2 : Ok rk (rk path) { st with depth := st.depth + 1, seen := path :: st.seen } := by
            refine ⟨Or.inr (by simp only; omega), fun q hq => ?_⟩
            rcases List.mem_cons.1 hq with rfl | hq
            · exact Nat.le_refl _
            · have := hseen q hq
              omega
          have hnb2 : NB rk P R st { st with depth := st.depth + 1, seen := path :: st.seen } :=
            fun q hq => (List.mem_cons.1 hq).elim (fun e => .inr (e ▸ ⟨hP, by omega⟩)) .inl
          refine (ih.descend (rk path) v0 segs _ path (hS path hP k0 segs v0 hsp hg) hok2).bind2
            fun v st3 _ h3 => ?_
          obtain ⟨⟨R2, hle2, hv, hok3⟩, hnb3⟩ := h3
          exact (ih.finalLoop R2 v st3 hv hok3).mono fun _ hp =>
            (hp.trans hnb3 hle2).trans hnb2 (by omega)
  descend R v segs st path hr hok := by
    cases segs with
    | nil => exact Good.refl hr hok
    | cons key rest =>
      rw [descend_consB]
      refine (ih.interpStrOrVl R v key rest st hr hok).bind2 fun newv st1 _ h => ?_
      obtain ⟨⟨R', hle, hok', hmap⟩, hnb⟩ := h
      split
      · split
        · simp [NotLD]
        next v' hl =>
          exact (ih.descend R' v' rest st1 path (hmap _ _ _ rfl v' hl) hok').mono
            fun _ hp => hp.trans hnb hle
      all_goals simp [NotLD]
  finalLoop R v st hv hok := by
    rw [finalLoop_succB]
    split
    · refine (ih.interp R v st hv hok).bind2 fun v1 st1 _ h => ?_
      exact (ih.finalLoop 0 v1 st1 h.1 (ok_zero rk st1)).mono fun _ hp => hp.trans h.2 (Nat.zero_le _)
    · exact Good.refl hv hok
  interpStrOrVl R v key rest st hr hok := by
    cases v with
    | str s =>
      refine (ih.interp R (.str s) st hr hok).mono ?_
      rintro ⟨newv, st1⟩ ⟨h1, h2⟩
      refine ⟨⟨0, Nat.zero_le _, ok_zero rk st1, ?_⟩, h2⟩
      rintro es ck ok rfl v' hl
      exact reach_of_refsIn rest v' (refsInEs_lookup h1 hl)
    | vl l =>
      rw [interpStrOrVl_vlB]
      refine (ih.layersStr R l st hr.1 hok).bind1 fun i h1 _ => ?_
      refine (Res.of_helper (flatVl_helper i .null st)).bind1 fun r h2 _ => ?_
      refine ⟨⟨R, Nat.le_refl _, hok, ?_⟩, NB.refl R st⟩
      rintro es ck ok rfl v' hl
      exact hr.2 n st i es ck ok v' h1 h2 hl
    | map es ck ok =>
      refine ⟨⟨R, Nat.le_refl _, hok, ?_⟩, NB.refl R st⟩
      rintro _ _ _ ⟨⟩ v' hl
      exact hr v' hl
    | _ => exact ⟨⟨R, Nat.le_refl _, hok, fun _ _ _ he => nomatch he⟩, NB.refl R st⟩
  layersStr R l st hl hok := by
    cases l with
    | nil => trivial
    | cons v vs =>
      rw [layersStr_consB]
      have hx : Res (fun _ => True)
          (if v.isStr then bind2 (Reclass.interp n root v st) fun x _ => .ok x else .ok v) := by
        split
        next hs => exact (ih.interp R v st (hl v List.mem_cons_self hs) hok).bind2 fun _ _ _ _ => trivial
        · trivial
      refine hx.bind1 fun _ _ _ => ?_
      exact (ih.layersStr R vs st (fun y hy => hl y (List.mem_cons_of_mem _ hy)) hok).bind1
        fun _ _ _ => trivial
  slice R ts st hts hok := by
    cases ts with
    | nil => trivial
    | cons t ts =>
      rw [slice_consB]
      refine (ih.tokResolve R t st hts.1 hok).bind2 fun v st1 _ h => ?_
      obtain ⟨⟨R1, _, hv1, hok1⟩, _⟩ := h
      refine (ih.strLoop R1 v st1 hv1 hok1).bind2 fun v2 st2 _ h => ?_
      obtain ⟨⟨R2, _, hv2, hok2⟩, _⟩ := h
      refine (ih.sliceFinish R2 v2 st2 hv2 hok2).bind1 fun _ _ _ => ?_
      exact (ih.slice R ts st hts.2 hok).bind1 fun _ _ _ => trivial
  strLoop R v st hv hok := by
    rw [strLoop_succB]
    split
    · refine (ih.interp R v st hv hok).bind2 fun v1 st1 _ h => ?_
      exact (ih.strLoop 0 v1 st1 h.1 (ok_zero rk st1)).mono fun _ hp => hp.trans h.2 (Nat.zero_le _)
    · exact Good.refl hv hok
  sliceFinish R v st hv hok := by
    rw [sliceFinish_succB]
    split
    · refine (ih.interp R v st hv hok).bind2 fun v1 st1 _ _ => ?_
      exact (Res.of_helper (flat_helper v1 st1)).bind1 fun _ _ _ => .of_helper (rawString_helper _)
    · exact .of_helper (rawString_helper _)

theorem sInv (hS : Strat root rk P) : ∀ n, SInv root rk P n
  | 0 => sInv_zero
  | n+1 => sInv_succ hS (sInv hS n)

end inv

/-! ## References whose path text is written out literally -/

def litParts : List Token → Option Str
  | [] => some []
  | .lit s :: ts => (litParts ts).map (s ++ ·)
  | _ :: _ => none

theorem slice_lits (root : Mapping) : ∀ (ts : List Token) (n : Nat) (st : RState) (p path : Str),
    litParts ts = some p → slice n root ts st = .ok path → path = p := by
  intro ts
  induction ts with
  | nil =>
    intro n st p path hp h
    cases n with
    | zero => cases h
    | succ n => exact (Except.ok.inj h).symm.trans (Option.some.inj hp)
  | cons t ts ih =>
    intro n st p path hp h
    cases t with
    | lit s =>
      simp only [litParts, Option.map_eq_some_iff] at hp
      obtain ⟨p', hp', rfl⟩ := hp
      -- with fuel 0 or 1 the piece does not render
      match n, h with
      | n+2, h =>
        rw [slice_cons_lit, bind1_ok] at h
        obtain ⟨s', h4, h⟩ := h
        rw [← Except.ok.inj h, ih (n+1) st p' s' hp' h4]
    | _ => cases hp

section lits
variable {root : Mapping} {rk : Str → Nat} {P : Str → Prop}

theorem tokOKs_lits : ∀ (ts : List Token) (p : Str) (R : Nat), litParts ts = some p →
    TokOKs root rk P R ts
  | [], _, _, _ => trivial
  | .lit s :: ts, p, R, h => by
    obtain ⟨p', hp', _⟩ := Option.map_eq_some_iff.1 h
    exact ⟨trivial, tokOKs_lits ts p' R hp'⟩
  | .ref _ :: _, _, _, h | .combined _ :: _, _, _, h => nomatch h

theorem tokOK_ref_lits {parts : List Token} {p : Str} {R : Nat} (hp : litParts parts = some p)
    (hP : P p) (hr : rk p < R) : TokOK root rk P R (.ref parts) := by
  refine ⟨rk p, hr, tokOKs_lits parts p _ hp, fun n st path h => ?_⟩
  rw [slice_lits root parts n st p path hp h]
  exact ⟨hP, Nat.le_refl _⟩

/-- A path text that renders to `p` in *some* run renders to `p` in every run (`slice_indep`). -/
theorem tokOK_ref_of_run {parts : List Token} {p : Str} {R m : Nat} {st0 : RState}
    (hrun : slice m root parts st0 = .ok p) (hP : P p) (hr : rk p < R)
    (hparts : TokOKs root rk P (rk p) parts) : TokOK root rk P R (.ref parts) := by
  refine ⟨rk p, hr, hparts, fun n st path h => ?_⟩
  rw [Refs.slice_indep h hrun]
  exact ⟨hP, Nat.le_refl _⟩

end lits

/-! ## Bool checkers (for closed examples) -/

section checkers
variable (root : Mapping) (fuel : Nat) (rk : Str → Nat) (Pb : Str → Bool)

mutual
/-- Literal path text is read off; the path of a nested reference (`${a:${b}}`) is obtained by one
run of `interpolate_token_slice` with `fuel` from the initial state. -/
def tokB : Nat → Token → Bool
  | _, .lit _ => true
  | R, .combined ts => toksB R ts
  | R, .ref parts =>
    match litParts parts with
    | some p => Pb p && decide (rk p < R)
    | none =>
      match slice fuel root parts {} with
      | .ok p => Pb p && decide (rk p < R) && toksB (rk p) parts
      | .error _ => false
def toksB : Nat → List Token → Bool
  | _, [] => true
  | R, t :: ts => tokB R t && toksB R ts
end

mutual
def valB (R : Nat) : Value → Bool
  | .str s =>
    match Token.parse s with
    | .ok (some t) => tokB root fuel rk Pb R t
    | _ => true
  | .vl l => valLB R l
  | .seq l => valLB R l
  | .map es _ _ => valEsB R es
  | _ => true
def valLB (R : Nat) : List Value → Bool
  | [] => true
  | v :: vs => valB R v && valLB R vs
def valEsB (R : Nat) : List (Key × Value) → Bool
  | [] => true
  | (_, v) :: es => valB R v && valEsB R es
end

/-- A missing key counts as fine: resolution stops with a lookup error.  For a layer list the
flattened layers are computed by one run from the initial state. -/
def reachB (R : Nat) : List Str → Value → Bool
  | [], v => valB root fuel rk Pb R v
  | key :: rest, v =>
    match v with
    | .map es _ _ =>
      match lookup (.str key) es with
      | some v' => reachB R rest v'
      | none => true
    | .vl l =>
      l.all (fun x => !x.isStr || valB root fuel rk Pb R x) &&
      match layersStr fuel root l {} with
      | .ok i =>
        match flatVl i .null {} with
        | .ok (.map es _ _) =>
          (match lookup (.str key) es with
           | some v' => reachB R rest v'
           | none => true)
        | .ok _ => true
        | .error _ => false
      | .error _ => false
    | v => valB root fuel rk Pb R v

end checkers

section sound
variable {root : Mapping} {fuel : Nat} {rk : Str → Nat} {Pb : Str → Bool}

mutual
theorem tokB_sound : ∀ (R : Nat) (t : Token), tokB root fuel rk Pb R t = true →
    TokOK root rk (fun p => Pb p = true) R t
  | _, .lit _, _ => trivial
  | R, .combined ts, h => toksB_sound R ts h
  | R, .ref parts, h => by
    simp only [tokB] at h
    cases hp : litParts parts with
    | none =>
      simp only [hp] at h
      cases hs : slice fuel root parts {} with
      | error e => simp [hs] at h
      | ok p =>
        simp only [hs, Bool.and_eq_true, decide_eq_true_eq] at h
        exact tokOK_ref_of_run hs h.1.1 h.1.2 (toksB_sound (rk p) parts h.2)
    | some p =>
      simp only [hp, Bool.and_eq_true, decide_eq_true_eq] at h
      exact tokOK_ref_lits hp h.1 h.2
theorem toksB_sound : ∀ (R : Nat) (ts : List Token), toksB root fuel rk Pb R ts = true →
    TokOKs root rk (fun p => Pb p = true) R ts
  | _, [], _ => trivial
  | R, t :: ts, h => by
    simp only [toksB, Bool.and_eq_true] at h
    exact ⟨tokB_sound R t h.1, toksB_sound R ts h.2⟩
end

mutual
theorem valB_sound (R : Nat) : ∀ (v : Value), valB root fuel rk Pb R v = true →
    RefsIn root rk (fun p => Pb p = true) R v
  | .str s, h => fun t ht => by
    simp only [valB, ht] at h
    exact tokB_sound R t h
  | .vl l, h | .seq l, h => valLB_sound R l h
  | .map es _ _, h => valEsB_sound R es h
  | .null, _ | .bool _, _ | .num _, _ | .lit _, _ => trivial
theorem valLB_sound (R : Nat) : ∀ (l : List Value), valLB root fuel rk Pb R l = true →
    RefsInL root rk (fun p => Pb p = true) R l
  | [], _ => trivial
  | v :: vs, h => by
    simp only [valLB, Bool.and_eq_true] at h
    exact ⟨valB_sound R v h.1, valLB_sound R vs h.2⟩
theorem valEsB_sound (R : Nat) : ∀ (es : List (Key × Value)), valEsB root fuel rk Pb R es = true →
    RefsInEs root rk (fun p => Pb p = true) R es
  | [], _ => trivial
  | (k, v) :: es, h => by
    simp only [valEsB, Bool.and_eq_true] at h
    exact ⟨valB_sound R v h.1, valEsB_sound R es h.2⟩
end

theorem reachB_sound (R : Nat) : ∀ (segs : List Str) (v : Value),
    reachB root fuel rk Pb R segs v = true → ReachOK root rk (fun p => Pb p = true) R segs v
  | [], v, h => valB_sound R v h
  | key :: rest, v, h => by
    cases v with
    | map es ck ok =>
      intro v' hl
      simp only [reachB, hl] at h
      exact reachB_sound R rest v' h
    | vl l =>
      simp only [reachB, Bool.and_eq_true, List.all_eq_true, Bool.or_eq_true,
        Bool.not_eq_true'] at h
      obtain ⟨hall, hrun⟩ := h
      refine ⟨?_, ?_⟩
      · intro x hx hs
        rcases hall x hx with h0 | h0
        · rw [hs] at h0; cases h0
        · exact valB_sound R x h0
      · intro n st i es ck ok v' h1 h2 h3
        cases hs : layersStr fuel root l {} with
        | error e => simp [hs] at hrun
        | ok i0 =>
          have hi : i = i0 := Refs.layersStr_indep h1 hs
          subst hi
          have h2' := flatVl_ok_state i .null st {} _ h2
          simp only [hs, h2', h3] at hrun
          exact reachB_sound R rest v' hrun
    | _ => exact valB_sound (fuel := fuel) R _ h

end sound

def rkT (tab : List (Str × Nat)) (p : Str) : Nat :=
  match tab with
  | [] => 0
  | (q, r) :: rest => if q = p then r else rkT rest p

def inT (tab : List (Str × Nat)) (p : Str) : Bool := tab.any (fun e => e.1 == p)

def stratB (root : Mapping) (fuel : Nat) (tab : List (Str × Nat)) : Bool :=
  tab.all fun e =>
    match splitColon e.1 with
    | [] => true
    | k0 :: segs =>
      match root.get (.str k0) with
      | none => true
      | some v0 => reachB root fuel (rkT tab) (inT tab) (rkT tab e.1) segs v0

theorem stratB_sound {root : Mapping} {fuel : Nat} {tab : List (Str × Nat)}
    (h : stratB root fuel tab = true) :
    Strat root (rkT tab) (fun p => inT tab p = true) := by
  intro p hp k0 segs v0 hsp hg
  simp only [inT, List.any_eq_true, beq_iff_eq] at hp
  obtain ⟨e, he, rfl⟩ := hp
  simp only [stratB, List.all_eq_true] at h
  have := h e he
  simp only [hsp, hg] at this
  exact reachB_sound _ segs v0 this

/-! ## Where a loop error comes from -/

/-- Somewhere below a call started in state `st`, a reference was resolved in a state `st'`
extending `st` (at least as deep, at least the same `seen` paths), the depth limit was not the
problem, its path text rendered to `path`, and `path` was already in `st'.seen`. -/
def Hit (root : Mapping) (st : RState) : Prop :=
  ∃ (m : Nat) (parts : List Token) (st' : RState) (path : Str),
    st.depth ≤ st'.depth ∧ st.seen ⊆ st'.seen ∧ st'.depth + 1 ≤ maxDepth ∧
    slice m root parts { st' with depth := st'.depth + 1 } = .ok path ∧ path ∈ st'.seen

theorem Hit.mono {root : Mapping} {st st1 : RState} (hd : st.depth ≤ st1.depth)
    (hs : st.seen ⊆ st1.seen) (h : Hit root st1) : Hit root st := by
  obtain ⟨m, parts, st', path, h1, h2, h3, h4, h5⟩ := h
  exact ⟨m, parts, st', path, Nat.le_trans hd h1, fun _ hq => h2 (hs hq), h3, h4, h5⟩

theorem Hit.of_le {root : Mapping} {st st1 : RState}
    (hle : st.depth ≤ st1.depth ∧ st.seen ⊆ st1.seen ∧ st1.cur = st.cur) (h : Hit root st1) :
    Hit root st := Hit.mono hle.1 hle.2.1 h

structure LInv (root : Mapping) (n : Nat) : Prop where
  interp : ∀ v st, interp n root v st = .error .loop → Hit root st
  interpL : ∀ l idx st, interpL n root l idx st = .error .loop → Hit root st
  interpEs : ∀ es ck ok st acc, interpEs n root es ck ok st acc = .error .loop → Hit root st
  interpVl : ∀ l r0 st, interpVl n root l r0 st = .error .loop → Hit root st
  tokRender : ∀ t st, tokRender n root t st = .error .loop → Hit root st
  tokResolve : ∀ t st, tokResolve n root t st = .error .loop → Hit root st
  descend : ∀ v segs st path, descend n root v segs st path = .error .loop → Hit root st
  finalLoop : ∀ v st, finalLoop n root v st = .error .loop → Hit root st
  interpStrOrVl : ∀ v st, interpStrOrVl n root v st = .error .loop → Hit root st
  layersStr : ∀ l st, layersStr n root l st = .error .loop → Hit root st
  slice : ∀ ts st, slice n root ts st = .error .loop → Hit root st
  strLoop : ∀ v st, strLoop n root v st = .error .loop → Hit root st
  sliceFinish : ∀ v st, sliceFinish n root v st = .error .loop → Hit root st

theorem lInv_zero (root : Mapping) : LInv root 0 := by
  constructor
  all_goals intros; rename_i h; cases h

theorem tokResolve_ref_loop {n : Nat} {root : Mapping} {parts : List Token} {st : RState}
    (h : tokResolve (n+1) root (.ref parts) st = .error .loop) :
    st.depth + 1 ≤ maxDepth ∧
    (slice n root parts { st with depth := st.depth + 1 } = .error .loop ∨
    ∃ path, slice n root parts { st with depth := st.depth + 1 } = .ok path ∧
      (path ∈ st.seen ∨
       (path ∉ st.seen ∧ ∃ k0 segs v0, splitColon path = k0 :: segs ∧
          root.get (.str k0) = some v0 ∧
          (descend n root v0 segs
              { st with depth := st.depth + 1, seen := path :: st.seen } path = .error .loop ∨
           ∃ v st3, descend n root v0 segs
              { st with depth := st.depth + 1, seen := path :: st.seen } path = .ok (v, st3) ∧
             finalLoop n root v st3 = .error .loop)))) := by
  rw [tokResolve_refB] at h
  split at h
  · cases h
  next hd =>
    refine ⟨Nat.le_of_not_gt hd, (bind1_err.1 h).imp_right fun ⟨path, h1, h⟩ => ⟨path, h1, ?_⟩⟩
    split at h
    next hm => exact .inl hm
    next hm =>
      split at h
      · cases h
      next k0 segs hsp =>
        split at h
        · cases h
        next v0 hg => exact .inr ⟨hm, k0, segs, v0, hsp, hg, bind2_err.1 h⟩

theorem lInv_succ {root : Mapping} {n : Nat} (ih : LInv root n) : LInv root (n+1) where
  interp v st h := by
    cases v with
    | str s =>
      rw [interp_strB] at h
      rcases bind1_err.1 h with h | ⟨o, -, h⟩
      · exact absurd h (parse_res s).ne_loop
      · cases o with
        | none => cases h
        | some t => exact ih.tokRender t st h
    | map es ck ok =>
      simp only [interp_mapB, bind1_err, reduceCtorEq, and_false, exists_false, or_false] at h
      exact ih.interpEs _ _ _ _ _ h
    | seq l =>
      simp only [interp_seqB, bind1_err, reduceCtorEq, and_false, exists_false, or_false] at h
      exact ih.interpL _ _ _ h
    | vl l =>
      rw [interp_vlB] at h
      rcases bind1_err.1 h with h | ⟨r, -, h⟩
      · exact ih.interpVl _ _ _ h
      · exact ih.interp r st h
    | _ => cases h
  interpL l idx st h := by
    cases l with
    | nil => cases h
    | cons v vs =>
      simp only [interpL_consB, bind2_err, bind1_err, reduceCtorEq, and_false, exists_false,
        or_false] at h
      rcases h with h | ⟨_, _, -, h⟩
      · refine Hit.mono ?_ ?_ (ih.interp _ _ h)
        · rw [Termination.pushListIndex_depth]; exact Nat.le_refl _
        · rw [pushListIndex_seen]; exact fun _ hq => hq
      · exact ih.interpL _ _ _ h
  interpEs es ck ok st acc h := by
    cases es with
    | nil => cases h
    | cons e rest =>
      obtain ⟨k, v⟩ := e
      simp only [interpEs_consB, bind2_err, bind1_err] at h
      rcases h with h | ⟨v1, st1, -, h | ⟨v2, -, h | ⟨acc', -, h⟩⟩⟩
      · exact Hit.mono (st1 := st.pushMappingKey k) (Nat.le_refl _) (fun _ hq => hq) (ih.interp _ _ h)
      · exact absurd h (Res.of_helper (flat_helper _ _)).ne_loop
      · exact absurd h (Res.of_helper (insertImpl_helper _ _ _ _ _)).ne_loop
      · exact ih.interpEs _ _ _ _ _ h
  interpVl l r0 st h := by
    cases l with
    | nil => cases h
    | cons v vs =>
      simp only [interpVl_consB, bind2_err, bind1_err] at h
      rcases h with h | ⟨x, st1, -, h | ⟨r1, -, h⟩⟩
      · exact ih.interp _ _ h
      · exact absurd h (Res.of_helper (mergeV_helper _ _ _)).ne_loop
      · exact ih.interpVl _ _ _ h
  tokRender t st h := by
    rw [tokRender_succB] at h
    rcases bind2_err.1 h with h | ⟨v, st1, h1, h⟩
    · exact ih.tokResolve _ _ h
    · split at h
      · exact Hit.of_le (tokResolve_depth_mono h1) (ih.interp _ _ h)
      · simp only [bind1_err, reduceCtorEq, and_false, exists_false, or_false] at h
        exact absurd h (Res.of_helper (rawString_helper _)).ne_loop
  tokResolve t st h := by
    cases t with
    | lit s => cases h
    | combined ts =>
      simp only [tokResolve_combinedB, bind1_err, reduceCtorEq, and_false, exists_false,
        or_false] at h
      exact ih.slice _ _ h
    | ref parts =>
      obtain ⟨hd, h1 | ⟨path, h1, hm | ⟨-, k0, segs, v0, -, -, h2 | ⟨v, st3, h2, h3⟩⟩⟩⟩ :=
        tokResolve_ref_loop h
      · exact Hit.mono (st1 := { st with depth := st.depth + 1 }) (Nat.le_succ _) (fun _ hq => hq)
          (ih.slice _ _ h1)
      · exact ⟨n, parts, st, path, Nat.le_refl _, fun _ hq => hq, hd, h1, hm⟩
      · exact Hit.of_le (RState.Le.enter st path) (ih.descend _ _ _ _ h2)
      · exact Hit.of_le (RState.Le.enter st path)
          (Hit.of_le (descend_depth_mono h2) (ih.finalLoop _ _ h3))
  descend v segs st path h := by
    cases segs with
    | nil => cases h
    | cons key rest =>
      rw [descend_consB] at h
      rcases bind2_err.1 h with h | ⟨newv, st1, h1, h⟩
      · exact ih.interpStrOrVl _ _ h
      · split at h
        · split at h
          · cases h
          · exact Hit.of_le (interpStrOrVl_depth_mono h1) (ih.descend _ _ _ _ h)
        all_goals cases h
  finalLoop v st h := by
    rw [finalLoop_succB] at h
    split at h
    · rcases bind2_err.1 h with h | ⟨v1, st1, h1, h⟩
      · exact ih.interp _ _ h
      · exact Hit.of_le (depth_mono h1) (ih.finalLoop _ _ h)
    · cases h
  interpStrOrVl v st h := by
    cases v with
    | str s => exact ih.interp _ _ h
    | vl l =>
      simp only [interpStrOrVl_vlB, bind1_err, reduceCtorEq, and_false, exists_false,
        or_false] at h
      rcases h with h | ⟨i, -, h⟩
      · exact ih.layersStr _ _ h
      · exact absurd h (Res.of_helper (flatVl_helper _ _ _)).ne_loop
    | _ => cases h
  layersStr l st h := by
    cases l with
    | nil => cases h
    | cons v vs =>
      simp only [layersStr_consB, bind1_err, reduceCtorEq, and_false, exists_false, or_false] at h
      rcases h with h | ⟨x, -, h⟩
      · split at h
        · simp only [bind2_err, reduceCtorEq, and_false, exists_false, or_false] at h
          exact ih.interp _ _ h
        · cases h
      · exact ih.layersStr _ _ h
  slice ts st h := by
    cases ts with
    | nil => cases h
    | cons t ts =>
      simp only [slice_consB, bind2_err, bind1_err, reduceCtorEq, and_false, exists_false,
        or_false] at h
      rcases h with h | ⟨v, st1, h1, h | ⟨v2, st2, h2, h | ⟨s, -, h⟩⟩⟩
      · exact ih.tokResolve _ _ h
      · exact .of_le (tokResolve_depth_mono h1) (ih.strLoop _ _ h)
      · exact .of_le (tokResolve_depth_mono h1) (.of_le (strLoop_depth_mono h2) (ih.sliceFinish _ _ h))
      · exact ih.slice _ _ h
  strLoop v st h := by
    rw [strLoop_succB] at h
    split at h
    · rcases bind2_err.1 h with h | ⟨v1, st1, h1, h⟩
      · exact ih.interp _ _ h
      · exact Hit.of_le (depth_mono h1) (ih.strLoop _ _ h)
    · cases h
  sliceFinish v st h := by
    rw [sliceFinish_succB] at h
    split at h
    · simp only [bind2_err, bind1_err] at h
      rcases h with h | ⟨v1, st1, -, h | ⟨v2, -, h⟩⟩
      · exact ih.interp _ _ h
      · exact absurd h (Res.of_helper (flat_helper _ _)).ne_loop
      · exact absurd h (Res.of_helper (rawString_helper _)).ne_loop
    · exact absurd h (Res.of_helper (rawString_helper _)).ne_loop

theorem lInv (root : Mapping) : ∀ n, LInv root n
  | 0 => lInv_zero root
  | n+1 => lInv_succ (lInv root n)

/-! ## Weakening the set of relevant paths -/

section monoP
variable {root : Mapping} {rk : Str → Nat} {P P' : Str → Prop}

theorem tokOKs_monoP (hPP : ∀ p, P p → P' p) : ∀ (ts : List Token) (R : Nat),
    TokOKs root rk P R ts → TokOKs root rk P' R ts :=
  fun ts R => tokOKs_weaken hPP ts (Nat.le_refl R)

theorem refsIn_monoP (hPP : ∀ p, P p → P' p) (R : Nat) : ∀ (v : Value),
    RefsIn root rk P R v → RefsIn root rk P' R v :=
  fun v => refsIn_weaken hPP v (Nat.le_refl R)

theorem refsInL_monoP (hPP : ∀ p, P p → P' p) (R : Nat) : ∀ (l : List Value),
    RefsInL root rk P R l → RefsInL root rk P' R l :=
  fun l => refsInL_weaken hPP l (Nat.le_refl R)

theorem refsInEs_monoP (hPP : ∀ p, P p → P' p) (R : Nat) : ∀ (es : List (Key × Value)),
    RefsInEs root rk P R es → RefsInEs root rk P' R es :=
  fun es => refsInEs_weaken hPP es (Nat.le_refl R)

end monoP

end Strat
end Reclass
