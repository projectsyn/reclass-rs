/-
  Reclass.Lemmas.EvalEq — the equations of the 13-function evaluator, one per arm.

  The model writes error propagation as explicit `match`es, and every call site gets a matcher of
  its own, so no lemma about "a call followed by its continuation" can be stated over the model's
  text.  Hence every arm is given a second time as a chain of `bind1`/`bind2` (the `Except` bind,
  for single results and for pairs), through which the two properties `FLe` and `ErrIn` pass by one
  rule per bind.
-/
import Reclass.Model.Eval
namespace Reclass

/-! ## Unfolding equations (all by `rfl`) -/

theorem interp_succ (n : Nat) (root : Mapping) (v : Value) (st : RState) :
    interp (n+1) root v st =
    match v with
    | .str s =>
      match Token.parse s with
      | .error e => .error e
      | .ok none => .ok (.lit s, st)
      | .ok (some t) => tokRender n root t st
    | .map es ck ok =>
      match interpEs n root es ck ok st {} with
      | .error e => .error e
      | .ok m => .ok (m.toValue, st)
    | .seq l =>
      match interpL n root l 0 st with
      | .error e => .error e
      | .ok l' => .ok (.seq l', st)
    | .vl l =>
      match interpVl n root l .null st with
      | .error e => .error e
      | .ok r => interp n root r st
    | v => .ok (v, st) := by cases v <;> rfl

theorem interp_str (n : Nat) (root : Mapping) (s : Str) (st : RState) :
    interp (n+1) root (.str s) st =
      match Token.parse s with
      | .error e => .error e
      | .ok none => .ok (.lit s, st)
      | .ok (some t) => tokRender n root t st := rfl

theorem interp_map (n : Nat) (root : Mapping) (es ck ok) (st : RState) :
    interp (n+1) root (.map es ck ok) st =
      match interpEs n root es ck ok st {} with
      | .error e => .error e
      | .ok m => .ok (m.toValue, st) := rfl

theorem interp_seq (n : Nat) (root : Mapping) (l) (st : RState) :
    interp (n+1) root (.seq l) st =
      match interpL n root l 0 st with
      | .error e => .error e
      | .ok l' => .ok (.seq l', st) := rfl

theorem interp_vl (n : Nat) (root : Mapping) (l) (st : RState) :
    interp (n+1) root (.vl l) st =
      match interpVl n root l .null st with
      | .error e => .error e
      | .ok r => interp n root r st := rfl

theorem interpL_nil (n : Nat) (root : Mapping) (idx : Nat) (st : RState) :
    interpL (n+1) root [] idx st = .ok [] := rfl

theorem interpL_cons (n : Nat) (root : Mapping) (v : Value) (vs : List Value) (idx : Nat) (st : RState) :
    interpL (n+1) root (v :: vs) idx st =
      match interp n root v (st.pushListIndex idx) with
      | .error e => .error e
      | .ok (x, _) =>
        match interpL n root vs (idx + 1) st with
        | .error e => .error e
        | .ok xs => .ok (x :: xs) := rfl

theorem interpEs_nil (n : Nat) (root : Mapping) (ck ok : List Key) (st : RState) (acc : Mapping) :
    interpEs (n+1) root [] ck ok st acc = .ok acc := rfl

theorem interpEs_cons (n : Nat) (root : Mapping) (k : Key) (v : Value) (rest : List (Key × Value))
    (ck ok : List Key) (st : RState) (acc : Mapping) :
    interpEs (n+1) root ((k, v) :: rest) ck ok st acc =
      match interp n root v (st.pushMappingKey k) with
      | .error e => .error e
      | .ok (v', st') =>
        match flat v' st' with
        | .error e => .error e
        | .ok v'' =>
          match acc.insertImpl k v'' (decide (k ∈ ck)) (decide (k ∈ ok)) with
          | .error e => .error e
          | .ok acc' => interpEs n root rest ck ok st acc' := rfl

theorem interpVl_nil (n : Nat) (root : Mapping) (r : Value) (st : RState) :
    interpVl (n+1) root [] r st = .ok r := rfl

theorem interpVl_cons (n : Nat) (root : Mapping) (v : Value) (vs : List Value) (r : Value) (st : RState) :
    interpVl (n+1) root (v :: vs) r st =
      match interp n root v st with
      | .error e => .error e
      | .ok (x, st') =>
        match mergeV r x st' with
        | .error e => .error e
        | .ok r' => interpVl n root vs r' st := rfl

theorem tokRender_succ (n : Nat) (root : Mapping) (t : Token) (st : RState) :
    tokRender (n+1) root t st =
      match tokResolve n root t st with
      | .error e => .error e
      | .ok (v, st') =>
        match t with
        | .ref _ => interp n root v st'
        | _ =>
          match rawString v with
          | .error e => .error e
          | .ok s => .ok (.lit s, st') := rfl

theorem tokResolve_lit (n : Nat) (root : Mapping) (s : Str) (st : RState) :
    tokResolve (n+1) root (.lit s) st = .ok (.lit s, st) := rfl

theorem tokResolve_combined (n : Nat) (root : Mapping) (ts : List Token) (st : RState) :
    tokResolve (n+1) root (.combined ts) st =
      match slice n root ts st with
      | .error e => .error e
      | .ok s => .ok (.lit s, st) := rfl

theorem tokResolve_ref (n : Nat) (root : Mapping) (parts : List Token) (st : RState) :
    tokResolve (n+1) root (.ref parts) st =
      if st.depth + 1 > maxDepth then .error (.depth ({ st with depth := st.depth + 1 } : RState).curKey)
      else
        match slice n root parts { st with depth := st.depth + 1 } with
        | .error e => .error e
        | .ok path =>
          if path ∈ st.seen then .error .loop
          else
            match splitColon path with
            | [] => .error (.panic .splitEmpty)
            | k0 :: segs =>
              match root.get (.str k0) with
              | none => .error (.missingKey path k0
                  ({ st with depth := st.depth + 1, seen := path :: st.seen } : RState).curKey)
              | some v0 =>
                match descend n root v0 segs { st with depth := st.depth + 1, seen := path :: st.seen } path with
                | .error e => .error e
                | .ok (v, st3) => finalLoop n root v st3 := rfl

theorem descend_nil (n : Nat) (root : Mapping) (v : Value) (st : RState) (path : Str) :
    descend (n+1) root v [] st path = .ok (v, st) := rfl

theorem descend_cons (n : Nat) (root : Mapping) (v : Value) (key : Str) (rest : List Str)
    (st : RState) (path : Str) :
    descend (n+1) root v (key :: rest) st path =
      match interpStrOrVl n root v st with
      | .error e => .error e
      | .ok (newv, st') =>
        match newv with
        | .map es _ _ =>
          match lookup (.str key) es with
          | none => .error (.missingKey path key st'.curKey)
          | some v' => descend n root v' rest st' path
        | .str _ => .error (.panic .resolveNewvStrVl)
        | .vl _ => .error (.panic .resolveNewvStrVl)
        | _ => .error (.lookupInto path key st'.curKey) := rfl

theorem finalLoop_succ (n : Nat) (root : Mapping) (v : Value) (st : RState) :
    finalLoop (n+1) root v st =
      if v.isStr || v.isVl then
        match interp n root v st with
        | .error e => .error e
        | .ok (v', st') => finalLoop n root v' st'
      else .ok (v, st) := rfl

theorem interpStrOrVl_succ (n : Nat) (root : Mapping) (v : Value) (st : RState) :
    interpStrOrVl (n+1) root v st =
      match v with
      | .str s => interp n root (.str s) st
      | .vl l =>
        match layersStr n root l st with
        | .error e => .error e
        | .ok i =>
          match flatVl i .null st with
          | .error e => .error e
          | .ok r => .ok (r, st)
      | v => .ok (v, st) := by cases v <;> rfl

theorem layersStr_nil (n : Nat) (root : Mapping) (st : RState) :
    layersStr (n+1) root [] st = .ok [] := rfl

theorem layersStr_cons (n : Nat) (root : Mapping) (v : Value) (vs : List Value) (st : RState) :
    layersStr (n+1) root (v :: vs) st =
      match (if v.isStr then (match interp n root v st with
                              | .error e => .error e
                              | .ok (x, _) => .ok x) else .ok v : R Value) with
      | .error e => .error e
      | .ok x =>
        match layersStr n root vs st with
        | .error e => .error e
        | .ok xs => .ok (x :: xs) := rfl

theorem slice_nil (n : Nat) (root : Mapping) (st : RState) :
    slice (n+1) root [] st = .ok [] := rfl

theorem slice_cons (n : Nat) (root : Mapping) (t : Token) (ts : List Token) (st : RState) :
    slice (n+1) root (t :: ts) st =
      match tokResolve n root t st with
      | .error e => .error e
      | .ok (v, st') =>
        match strLoop n root v st' with
        | .error e => .error e
        | .ok (v', st'') =>
          match sliceFinish n root v' st'' with
          | .error e => .error e
          | .ok s =>
            match slice n root ts st with
            | .error e => .error e
            | .ok s' => .ok (s ++ s') := rfl

theorem strLoop_succ (n : Nat) (root : Mapping) (v : Value) (st : RState) :
    strLoop (n+1) root v st =
      if v.isStr then
        match interp n root v st with
        | .error e => .error e
        | .ok (v', st') => strLoop n root v' st'
      else .ok (v, st) := rfl

theorem sliceFinish_succ (n : Nat) (root : Mapping) (v : Value) (st : RState) :
    sliceFinish (n+1) root v st =
      if v.isMap || v.isSeq then
        match interp n root v st with
        | .error e => .error e
        | .ok (v', st') =>
          match flat v' st' with
          | .error e => .error e
          | .ok v'' => rawString v''
      else rawString v := rfl

/-! ## Bind form -/

def bind1 {α γ : Type} (x : R α) (f : α → R γ) : R γ :=
  match x with
  | .error e => .error e
  | .ok a => f a

def bind2 {α β γ : Type} (x : R (α × β)) (f : α → β → R γ) : R γ :=
  match x with
  | .error e => .error e
  | .ok (a, b) => f a b

theorem bind1_ok {α γ : Type} {x : R α} {f : α → R γ} {c : γ} :
    bind1 x f = .ok c ↔ ∃ a, x = .ok a ∧ f a = .ok c := by
  cases x <;> simp [bind1]

theorem bind2_ok {α β γ : Type} {x : R (α × β)} {f : α → β → R γ} {c : γ} :
    bind2 x f = .ok c ↔ ∃ a b, x = .ok (a, b) ∧ f a b = .ok c := by
  rcases x with _ | ⟨a, b⟩
  · simp [bind2]
  · exact ⟨fun h => ⟨a, b, rfl, h⟩, fun ⟨_, _, h, h'⟩ => by cases h; exact h'⟩

theorem bind1_err {α γ : Type} {x : R α} {f : α → R γ} {e : Err} :
    bind1 x f = .error e ↔ x = .error e ∨ ∃ a, x = .ok a ∧ f a = .error e := by
  cases x <;> simp [bind1]

theorem bind2_err {α β γ : Type} {x : R (α × β)} {f : α → β → R γ} {e : Err} :
    bind2 x f = .error e ↔ x = .error e ∨ ∃ a b, x = .ok (a, b) ∧ f a b = .error e := by
  rcases x with _ | ⟨a, b⟩
  · simp [bind2]
  · exact ⟨fun h => .inr ⟨a, b, rfl, h⟩, fun h => by
      rcases h with h | ⟨_, _, h, h'⟩
      · cases h
      · cases h; exact h'⟩

/-- `y` is `x` unless `x` ran out of fuel ("more fuel, same answer"). -/
def FLe {α : Type} (x y : R α) : Prop := x ≠ .error .fuel → y = x

theorem FLe.rfl' {α : Type} (x : R α) : FLe x x := fun _ => rfl

theorem FLe.bind1 {α β : Type} {x y : R α} {f g : α → R β} (h : FLe x y)
    (hf : ∀ a, FLe (f a) (g a)) : FLe (bind1 x f) (bind1 y g) := by
  intro hne
  cases x with
  | error e => rw [h (fun h' => hne (by rw [h']; rfl))]; rfl
  | ok a => rw [h (by simp)]; exact hf a hne

theorem FLe.bind2 {α β γ : Type} {x y : R (α × β)} {f g : α → β → R γ} (h : FLe x y)
    (hf : ∀ a b, FLe (f a b) (g a b)) : FLe (bind2 x f) (bind2 y g) := by
  intro hne
  rcases x with e | ⟨a, b⟩
  · rw [h (fun h' => hne (by rw [h']; rfl))]; rfl
  · rw [h (by simp)]; exact hf a b hne

theorem FLe.ite {α : Type} {c : Prop} [Decidable c] {x x' y y' : R α} (hx : FLe x x') (hy : FLe y y') :
    FLe (if c then x else y) (if c then x' else y') := by
  split
  · exact hx
  · exact hy

def ErrIn {α : Type} (P : Err → Prop) (x : R α) : Prop := ∀ e, x = .error e → P e

theorem ErrIn.ok {α : Type} {P : Err → Prop} {a : α} : ErrIn P (.ok a : R α) := fun _ h => nomatch h

theorem ErrIn.error {α : Type} {P : Err → Prop} {e : Err} (h : P e) : ErrIn P (.error e : R α) :=
  fun _ h' => Except.error.inj h' ▸ h

theorem ErrIn.bind1 {α β : Type} {P : Err → Prop} {x : R α} {f : α → R β} (hx : ErrIn P x)
    (hf : ∀ a, ErrIn P (f a)) : ErrIn P (bind1 x f) := by
  cases x with
  | error e => exact .error (hx e rfl)
  | ok a => exact hf a

theorem ErrIn.bind2 {α β γ : Type} {P : Err → Prop} {x : R (α × β)} {f : α → β → R γ}
    (hx : ErrIn P x) (hf : ∀ a b, ErrIn P (f a b)) : ErrIn P (bind2 x f) := by
  rcases x with e | ⟨a, b⟩
  · exact .error (hx e rfl)
  · exact hf a b

/-- `Reclass.bind1`: inside `theorem ErrIn.bind1'` the bare `bind1` is `ErrIn.bind1`. -/
theorem ErrIn.bind1' {α β : Type} {P : Err → Prop} {x : R α} {f : α → R β} (hx : ErrIn P x)
    (hf : ∀ a, x = .ok a → ErrIn P (f a)) : ErrIn P (Reclass.bind1 x f) := by
  cases x with
  | error e => exact .error (hx e rfl)
  | ok a => exact hf a rfl

theorem ErrIn.bind2' {α β γ : Type} {P : Err → Prop} {x : R (α × β)} {f : α → β → R γ}
    (hx : ErrIn P x) (hf : ∀ a b, x = .ok (a, b) → ErrIn P (f a b)) :
    ErrIn P (Reclass.bind2 x f) := by
  rcases x with e | ⟨a, b⟩
  · exact .error (hx e rfl)
  · exact hf a b rfl

theorem ErrIn.mono {α : Type} {P Q : Err → Prop} {x : R α} (h : ErrIn P x) (hPQ : ∀ e, P e → Q e) :
    ErrIn Q x := fun e he => hPQ e (h e he)

theorem ErrIn.ne {α : Type} {P : Err → Prop} {x : R α} (h : ErrIn P x) {e : Err} (he : ¬P e) :
    x ≠ .error e := fun hx => he (h e hx)

/-! The arms in bind form. Each proof cases on the calls in their order: `rfl` cannot identify the
model's matcher with `bind1`/`bind2` while the call they match on is stuck. -/

theorem interp_strB (n : Nat) (root : Mapping) (s : Str) (st : RState) :
    interp (n+1) root (.str s) st =
      bind1 (Token.parse s) fun
        | none => .ok (.lit s, st)
        | some t => tokRender n root t st := by
  rw [interp_str]; rcases Token.parse s with _ | _ | _ <;> rfl

theorem interp_mapB (n : Nat) (root : Mapping) (es ck ok) (st : RState) :
    interp (n+1) root (.map es ck ok) st =
      bind1 (interpEs n root es ck ok st {}) fun m => .ok (m.toValue, st) := by
  rw [interp_map]; rcases interpEs n root es ck ok st {} with _ | _ <;> rfl

theorem interp_seqB (n : Nat) (root : Mapping) (l) (st : RState) :
    interp (n+1) root (.seq l) st = bind1 (interpL n root l 0 st) fun l' => .ok (.seq l', st) := by
  rw [interp_seq]; rcases interpL n root l 0 st with _ | _ <;> rfl

theorem interp_vlB (n : Nat) (root : Mapping) (l) (st : RState) :
    interp (n+1) root (.vl l) st = bind1 (interpVl n root l .null st) fun r => interp n root r st := by
  rw [interp_vl]; rcases interpVl n root l .null st with _ | _ <;> rfl

theorem interpL_consB (n : Nat) (root : Mapping) (v : Value) (vs : List Value) (idx : Nat) (st : RState) :
    interpL (n+1) root (v :: vs) idx st =
      bind2 (interp n root v (st.pushListIndex idx)) fun x _ =>
        bind1 (interpL n root vs (idx + 1) st) fun xs => .ok (x :: xs) := by
  rw [interpL_cons]
  rcases interp n root v (st.pushListIndex idx) with _ | ⟨x, _⟩
  · rfl
  dsimp only [bind2]
  rcases interpL n root vs (idx + 1) st with _ | _ <;> rfl

theorem interpEs_consB (n : Nat) (root : Mapping) (k : Key) (v : Value) (rest : List (Key × Value))
    (ck ok : List Key) (st : RState) (acc : Mapping) :
    interpEs (n+1) root ((k, v) :: rest) ck ok st acc =
      bind2 (interp n root v (st.pushMappingKey k)) fun v' st' =>
        bind1 (flat v' st') fun v'' =>
          bind1 (acc.insertImpl k v'' (decide (k ∈ ck)) (decide (k ∈ ok))) fun acc' =>
            interpEs n root rest ck ok st acc' := by
  rw [interpEs_cons]
  rcases interp n root v (st.pushMappingKey k) with _ | ⟨v', st'⟩
  · rfl
  dsimp only [bind2]
  rcases flat v' st' with _ | v''
  · rfl
  dsimp only [bind1]
  rcases acc.insertImpl k v'' (decide (k ∈ ck)) (decide (k ∈ ok)) with _ | _ <;> rfl

theorem interpVl_consB (n : Nat) (root : Mapping) (v : Value) (vs : List Value) (r : Value) (st : RState) :
    interpVl (n+1) root (v :: vs) r st =
      bind2 (interp n root v st) fun x st' =>
        bind1 (mergeV r x st') fun r' => interpVl n root vs r' st := by
  rw [interpVl_cons]
  rcases interp n root v st with _ | ⟨x, st'⟩
  · rfl
  dsimp only [bind2]
  rcases mergeV r x st' with _ | _ <;> rfl

theorem tokRender_succB (n : Nat) (root : Mapping) (t : Token) (st : RState) :
    tokRender (n+1) root t st =
      bind2 (tokResolve n root t st) fun v st' =>
        match t with
        | .ref _ => interp n root v st'
        | _ => bind1 (rawString v) fun s => .ok (.lit s, st') := by
  rw [tokRender_succ]
  rcases tokResolve n root t st with _ | ⟨v, st'⟩
  · rfl
  dsimp only [bind2]
  cases t
  case ref => rfl
  all_goals dsimp only; rcases rawString v with _ | _ <;> rfl

theorem tokResolve_combinedB (n : Nat) (root : Mapping) (ts : List Token) (st : RState) :
    tokResolve (n+1) root (.combined ts) st = bind1 (slice n root ts st) fun s => .ok (.lit s, st) := by
  rw [tokResolve_combined]; rcases slice n root ts st with _ | _ <;> rfl

theorem tokResolve_refB (n : Nat) (root : Mapping) (parts : List Token) (st : RState) :
    tokResolve (n+1) root (.ref parts) st =
      if st.depth + 1 > maxDepth then .error (.depth ({ st with depth := st.depth + 1 } : RState).curKey)
      else
        bind1 (slice n root parts { st with depth := st.depth + 1 }) fun path =>
          if path ∈ st.seen then .error .loop
          else
            match splitColon path with
            | [] => .error (.panic .splitEmpty)
            | k0 :: segs =>
              match root.get (.str k0) with
              | none => .error (.missingKey path k0
                  ({ st with depth := st.depth + 1, seen := path :: st.seen } : RState).curKey)
              | some v0 =>
                bind2 (descend n root v0 segs { st with depth := st.depth + 1, seen := path :: st.seen } path)
                  fun v st3 => finalLoop n root v st3 := by
  rw [tokResolve_ref]
  split
  · rfl
  rcases slice n root parts { st with depth := st.depth + 1 } with _ | path
  · rfl
  dsimp only [bind1]
  split
  · rfl
  split
  · rfl
  split
  · rfl
  next k0 segs _ _ v0 _ =>
    rcases descend n root v0 segs { st with depth := st.depth + 1, seen := path :: st.seen } path
      with _ | ⟨_, _⟩ <;> rfl

theorem descend_consB (n : Nat) (root : Mapping) (v : Value) (key : Str) (rest : List Str)
    (st : RState) (path : Str) :
    descend (n+1) root v (key :: rest) st path =
      bind2 (interpStrOrVl n root v st) fun newv st' =>
        match newv with
        | .map es _ _ =>
          match lookup (.str key) es with
          | none => .error (.missingKey path key st'.curKey)
          | some v' => descend n root v' rest st' path
        | .str _ => .error (.panic .resolveNewvStrVl)
        | .vl _ => .error (.panic .resolveNewvStrVl)
        | _ => .error (.lookupInto path key st'.curKey) := by
  rw [descend_cons]; rcases interpStrOrVl n root v st with _ | ⟨_, _⟩ <;> rfl

theorem finalLoop_succB (n : Nat) (root : Mapping) (v : Value) (st : RState) :
    finalLoop (n+1) root v st =
      if v.isStr || v.isVl then bind2 (interp n root v st) fun v' st' => finalLoop n root v' st'
      else .ok (v, st) := by
  rw [finalLoop_succ]; rcases interp n root v st with _ | ⟨_, _⟩ <;> rfl

theorem interpStrOrVl_vlB (n : Nat) (root : Mapping) (l : List Value) (st : RState) :
    interpStrOrVl (n+1) root (.vl l) st =
      bind1 (layersStr n root l st) fun i => bind1 (flatVl i .null st) fun r => .ok (r, st) := by
  rw [interpStrOrVl_succ]
  dsimp only
  rcases layersStr n root l st with _ | i
  · rfl
  dsimp only [bind1]
  rcases flatVl i .null st with _ | _ <;> rfl

theorem layersStr_consB (n : Nat) (root : Mapping) (v : Value) (vs : List Value) (st : RState) :
    layersStr (n+1) root (v :: vs) st =
      bind1 (if v.isStr then bind2 (interp n root v st) fun x _ => .ok x else .ok v) fun x =>
        bind1 (layersStr n root vs st) fun xs => .ok (x :: xs) := by
  rw [layersStr_cons]
  by_cases hs : v.isStr
  · simp only [hs, if_true]
    rcases interp n root v st with _ | ⟨x, _⟩
    · rfl
    dsimp only [bind1, bind2]
    rcases layersStr n root vs st with _ | _ <;> rfl
  · simp only [hs]
    dsimp only [bind1]
    rcases layersStr n root vs st with _ | _ <;> rfl

theorem slice_consB (n : Nat) (root : Mapping) (t : Token) (ts : List Token) (st : RState) :
    slice (n+1) root (t :: ts) st =
      bind2 (tokResolve n root t st) fun v st' =>
        bind2 (strLoop n root v st') fun v' st'' =>
          bind1 (sliceFinish n root v' st'') fun s =>
            bind1 (slice n root ts st) fun s' => .ok (s ++ s') := by
  rw [slice_cons]
  rcases tokResolve n root t st with _ | ⟨v, st'⟩
  · rfl
  dsimp only [bind2]
  rcases strLoop n root v st' with _ | ⟨v', st''⟩
  · rfl
  dsimp only
  rcases sliceFinish n root v' st'' with _ | s
  · rfl
  dsimp only [bind1]
  rcases slice n root ts st with _ | _ <;> rfl

theorem strLoop_succB (n : Nat) (root : Mapping) (v : Value) (st : RState) :
    strLoop (n+1) root v st =
      if v.isStr then bind2 (interp n root v st) fun v' st' => strLoop n root v' st'
      else .ok (v, st) := by
  rw [strLoop_succ]; rcases interp n root v st with _ | ⟨_, _⟩ <;> rfl

theorem sliceFinish_succB (n : Nat) (root : Mapping) (v : Value) (st : RState) :
    sliceFinish (n+1) root v st =
      if v.isMap || v.isSeq then
        bind2 (interp n root v st) fun v' st' => bind1 (flat v' st') fun v'' => rawString v''
      else rawString v := by
  rw [sliceFinish_succ]
  rcases interp n root v st with _ | ⟨v', st'⟩
  · rfl
  dsimp only [bind2]
  rcases flat v' st' with _ | _ <;> rfl

theorem tokResolve_ref_ok {n : Nat} {root : Mapping} {parts : List Token} {st : RState} {x : Value}
    {st' : RState} (h : tokResolve (n+1) root (.ref parts) st = .ok (x, st')) :
    st.depth + 1 ≤ maxDepth ∧ ∃ path k0 segs v0 v st3,
      slice n root parts { st with depth := st.depth + 1 } = .ok path ∧ path ∉ st.seen ∧
      splitColon path = k0 :: segs ∧ root.get (.str k0) = some v0 ∧
      descend n root v0 segs { st with depth := st.depth + 1, seen := path :: st.seen } path
        = .ok (v, st3) ∧
      finalLoop n root v st3 = .ok (x, st') := by
  rw [tokResolve_refB] at h
  split at h
  · cases h
  rename_i hd
  simp only [bind1_ok] at h
  obtain ⟨path, hp, h⟩ := h
  split at h
  · cases h
  rename_i hs
  split at h
  · cases h
  rename_i k0 segs hsp
  split at h
  · cases h
  rename_i v0 hg
  simp only [bind2_ok] at h
  obtain ⟨v, st3, hdn, hf⟩ := h
  exact ⟨Nat.le_of_not_gt hd, path, k0, segs, v0, v, st3, hp, hs, hsp, hg, hdn, hf⟩

/-! ## Scalars -/

theorem interp_scalar {v : Value} (h1 : v.isStr = false) (h2 : v.isMap = false) (h3 : v.isSeq = false)
    (h4 : v.isVl = false) (n : Nat) (root : Mapping) (st : RState) : interp (n+1) root v st = .ok (v, st) := by
  cases v <;> first | rfl | contradiction

theorem interpStrOrVl_other {v : Value} (h1 : v.isStr = false) (h2 : v.isVl = false) (n : Nat)
    (root : Mapping) (st : RState) : interpStrOrVl (n+1) root v st = .ok (v, st) := by
  cases v <;> first | rfl | contradiction

/-! ## `merge` and `flattened` -/

theorem mergeV_null (self : Value) (st : RState) : mergeV self .null st = .ok .null := by
  unfold mergeV; rfl

theorem mergeV_vl (self : Value) (l : List Value) (st : RState) :
    mergeV self (.vl l) st = bind1 (flatVl l .null st) fun o => mergeNonVl self o st := by
  unfold mergeV; rcases flatVl l .null st with _ | _ <;> rfl

theorem mergeV_of_not_vl {other : Value} (h1 : other.isNull = false) (h2 : other.isVl = false)
    (self : Value) (st : RState) : mergeV self other st = mergeNonVl self other st := by
  unfold mergeV; cases other <;> first | rfl | contradiction

theorem mergeNonVl_ok {a b r : Value} {st : RState} (h : mergeNonVl a b st = .ok r) :
    (a = .null ∧ r = b) ∨
    (∃ es ck ok es' ck' ok' m, a = .map es ck ok ∧ b = .map es' ck' ok' ∧
      Mapping.merge ⟨es, ck, ok⟩ ⟨es', ck', ok'⟩ = .ok m ∧ r = m.toValue) ∨
    (∃ s s', a = .seq s ∧ b = .seq s' ∧ r = .seq (s ++ s')) ∨
    ((∃ x, a = .bool x) ∨ (∃ x, a = .num x) ∨ (∃ x, a = .lit x)) ∧
      b.isMap = false ∧ b.isSeq = false ∧ r = b := by
  have scalar : ∀ k : Str, (if b.isMap || b.isSeq then
      (.error (.mergeConflict st.curKey b.kind k) : R Value) else .ok b) = .ok r →
      b.isMap = false ∧ b.isSeq = false ∧ r = b := by
    intro _ h
    split at h
    · cases h
    · cases h; cases b <;> simp_all [Value.isMap, Value.isSeq]
  cases a with
  | null => exact .inl ⟨rfl, (Except.ok.inj h).symm⟩
  | map es ck ok =>
    cases b with
    | map es' ck' ok' =>
      simp only [mergeNonVl] at h
      rcases hm : Mapping.merge ⟨es, ck, ok⟩ ⟨es', ck', ok'⟩ with _ | m <;> rw [hm] at h
      · cases h
      · exact .inr (.inl ⟨es, ck, ok, es', ck', ok', m, rfl, rfl, hm, (Except.ok.inj h).symm⟩)
    | _ => cases h
  | seq s =>
    cases b with
    | seq s' => exact .inr (.inr (.inl ⟨_, _, rfl, rfl, (Except.ok.inj h).symm⟩))
    | _ => cases h
  | str _ => cases h
  | vl _ => cases h
  | bool x => exact .inr (.inr (.inr ⟨.inl ⟨x, rfl⟩, scalar _ h⟩))
  | num x => exact .inr (.inr (.inr ⟨.inr (.inl ⟨x, rfl⟩), scalar _ h⟩))
  | lit x => exact .inr (.inr (.inr ⟨.inr (.inr ⟨x, rfl⟩), scalar _ h⟩))

theorem mergeNonVl_error {a b : Value} {st : RState} {e : Err} (h : mergeNonVl a b st = .error e) :
    (∃ es ck ok es' ck' ok', a = .map es ck ok ∧ b = .map es' ck' ok' ∧
      Mapping.merge ⟨es, ck, ok⟩ ⟨es', ck', ok'⟩ = .error e) ∨
    (∃ over onto, e = .mergeConflict st.curKey over onto) ∨
    (e = .panic .mergeTargetStr ∧ a.isStr = true) ∨ (e = .panic .mergeTargetVl ∧ a.isVl = true) := by
  unfold mergeNonVl at h
  split at h
  · cases h
  · split at h
    · split at h
      · cases h; exact .inl ⟨_, _, _, _, _, _, rfl, rfl, ‹_›⟩
      · cases h
    · cases h; exact .inr (.inl ⟨_, _, rfl⟩)
  · split at h
    · cases h
    · cases h; exact .inr (.inl ⟨_, _, rfl⟩)
  · cases h; exact .inr (.inr (.inl ⟨rfl, rfl⟩))
  · cases h; exact .inr (.inr (.inr ⟨rfl, rfl⟩))
  · split at h
    · cases h; exact .inr (.inl ⟨_, _, rfl⟩)
    · cases h

theorem flat_vl (l : List Value) (st : RState) : flat (.vl l) st = flatVl l .null st := by
  unfold flat; rfl

theorem flat_mapB (es : List (Key × Value)) (ck ok : List Key) (st : RState) :
    flat (.map es ck ok) st = bind1 (flatEs es ck ok st {}) fun m => .ok m.toValue := by
  unfold flat; rcases flatEs es ck ok st {} with _ | _ <;> rfl

theorem flat_seqB (l : List Value) (st : RState) :
    flat (.seq l) st = bind1 (flatL l st) fun l' => .ok (.seq l') := by
  unfold flat; rcases flatL l st with _ | _ <;> rfl

theorem flat_str (s : Str) (st : RState) : flat (.str s) st = .error (.flattenString st.curKey) := by
  unfold flat; rfl

theorem flat_scalar {v : Value} (h1 : v.isStr = false) (h2 : v.isMap = false) (h3 : v.isSeq = false)
    (h4 : v.isVl = false) (st : RState) : flat v st = .ok v := by
  unfold flat; cases v <;> first | rfl | contradiction

theorem flatVl_nil (base : Value) (st : RState) : flatVl [] base st = .ok base := by
  unfold flatVl; rfl

theorem flatVl_consB (v : Value) (rest : List Value) (base : Value) (st : RState) :
    flatVl (v :: rest) base st = bind1 (mergeV base v st) fun b => flatVl rest b st := by
  rw [flatVl]; rcases mergeV base v st with _ | _ <;> rfl

theorem flatL_consB (v : Value) (vs : List Value) (st : RState) :
    flatL (v :: vs) st = bind1 (flat v st) fun x => bind1 (flatL vs st) fun xs => .ok (x :: xs) := by
  rw [flatL]
  rcases flat v st with _ | _
  · rfl
  dsimp only [bind1]
  rcases flatL vs st with _ | _ <;> rfl

theorem flatEs_consB (k : Key) (v : Value) (rest : List (Key × Value)) (ck ok : List Key) (st : RState)
    (acc : Mapping) :
    flatEs ((k, v) :: rest) ck ok st acc =
      bind1 (flat v st) fun v' =>
        bind1 (acc.insertImpl k v' (decide (k ∈ ck)) (decide (k ∈ ok))) fun acc' =>
          flatEs rest ck ok st acc' := by
  rw [flatEs]
  rcases flat v st with _ | v'
  · rfl
  dsimp only [bind1]
  rcases acc.insertImpl k v' (decide (k ∈ ck)) (decide (k ∈ ok)) with _ | _ <;> rfl

theorem mergeEntries_consB (m : Mapping) (ock ook : List Key) (k : Key) (v : Value)
    (rest : List (Key × Value)) :
    m.mergeEntries ock ook ((k, v) :: rest) =
      bind1 (m.insertImpl k v (decide (k ∈ ock)) (decide (k ∈ ook))) fun m' =>
        m'.mergeEntries ock ook rest := by
  rw [Mapping.mergeEntries]
  rcases m.insertImpl k v (decide (k ∈ ock)) (decide (k ∈ ook)) with _ | _ <;> rfl

theorem jsonOf_seqB (l : List Value) :
    jsonOf (.seq l) = bind1 (jsonOfL l) fun xs => .ok (['['] ++ joinWith [','] xs ++ [']']) := by
  rw [jsonOf]; rcases jsonOfL l with _ | _ <;> rfl

theorem jsonOf_mapB (es : List (Key × Value)) (ck ok : List Key) :
    jsonOf (.map es ck ok) = bind1 (jsonOfEs es []) fun kvs =>
      .ok (['{'] ++ joinWith [','] (kvs.map fun kv => jsonString kv.1 ++ [':'] ++ kv.2) ++ ['}']) := by
  rw [jsonOf]; rcases jsonOfEs es [] with _ | _ <;> rfl

theorem jsonOfL_consB (v : Value) (vs : List Value) :
    jsonOfL (v :: vs) = bind1 (jsonOf v) fun x => bind1 (jsonOfL vs) fun xs => .ok (x :: xs) := by
  rw [jsonOfL]
  rcases jsonOf v with _ | _
  · rfl
  dsimp only [bind1]
  rcases jsonOfL vs with _ | _ <;> rfl

theorem jsonOfEs_consB (k : Key) (v : Value) (rest : List (Key × Value)) (acc : List (Str × Str)) :
    jsonOfEs ((k, v) :: rest) acc =
      bind1 (jsonOf v) fun x => jsonOfEs rest (sortedInsert k.jsonKey x acc) := by
  rw [jsonOfEs]; rcases jsonOf v with _ | _ <;> rfl

end Reclass
