/-
  What C07b, C11b and C19b need about `renderNode` / `renderNodeSrc` (`Reclass::render_node`).
  `WFN` (well-formed and free of nested layer lists, `Lemmas/ClosedL`) is established by
  `NodeM.ofSrc`, kept by `mergeInto` and by a successful class walk, and holds for the `_reclass_`
  mapping: the parameters handed to the final rendering are `WFN`, and no stage fails with a
  panic.  `renderNode` depends on its fuel argument only through the class walk.
-/
import Reclass.Lemmas.TextL
import Reclass.Lemmas.WalkL
import Reclass.Lemmas.NamingL
import Reclass.Props.C11
namespace Reclass

/-! ## 1. Inventories decoded from YAML with at most one marker per key -/

/-- The `parameters` of a class / node file, as a YAML mapping, carry at most one leading
`=`/`~` marker on every string key (at every depth). -/
def SrcOK (src : ClassSrc) : Prop := SingleMarker (.map src.params)

def InvOK (r : Inv) : Prop :=
  (∀ x ∈ r.classes, ∀ src, x.2.2 = .ok src → SrcOK src) ∧
  (∀ x ∈ r.nodes, ∀ src, x.2.2 = .ok src → SrcOK src)

abbrev NodeM.OK (n : NodeM) : Prop := WFN n.params.toValue

theorem wfn_empty : WFN (({} : Mapping)).toValue :=
  ⟨⟨trivial, List.nodup_nil⟩, trivial⟩

theorem nodeOK_empty : ({} : NodeM).OK := wfn_empty

/-! ## 2. `WFN` through decoding and merging -/

theorem ofSrc_wfn {loc : Option (List Str)} {src : ClassSrc} {n : NodeM} (hs : SrcOK src)
    (h : NodeM.ofSrc loc src = .ok n) : WFN n.params.toValue := by
  rw [ofSrc_eqB, bind1_ok] at h
  obtain ⟨p, h1, h⟩ := h
  cases h
  exact ⟨ofYamlEs_wf _ {} p hs wfn_empty.1 h1, ofYamlEs_noNest _ {} p wfn_empty.2 h1⟩

theorem merge_noNest {a b c : Mapping} (ha : NoNest a.toValue) (hb : NoNest b.toValue)
    (h : Mapping.merge a b = .ok c) : NoNest c.toValue := by
  simp only [Mapping.toValue, NoNest] at ha hb ⊢
  exact noNestPred.mergeEntries_pres ha hb h

theorem mergeInto_wfn {self other root' : NodeM} (hs : self.OK) (ho : other.OK)
    (h : mergeInto self other = .ok root') : root'.OK :=
  have hm := (mergeInto_ok h).1
  ⟨merge_wf ho.1 hs.1 hm, merge_noNest ho.2 hs.2 hm⟩

theorem readClass_wfn {r : Inv} (hr : InvOK r) {loc : Option (List Str)} {c : Str} {cn : NodeM}
    (h : readClass r loc c = .ok (some cn)) : cn.OK := by
  obtain ⟨info, src, hf, ho⟩ := readClass_some h
  exact ofSrc_wfn (hr.1 _ (findEntity_some_mem hf) src rfl) ho

theorem mergeSeq_wfn : ∀ (ns : List NodeM) {root root' : NodeM}, root.OK → (∀ n ∈ ns, n.OK) →
    mergeSeq root ns = .ok root' → root'.OK
  | [], root, root', hr, _, h => by cases h; exact hr
  | c :: cs, root, root', hr, hns, h => by
    rw [mergeSeq_consB, bind1_ok] at h
    obtain ⟨r1, h1, h⟩ := h
    exact mergeSeq_wfn cs (mergeInto_wfn (hns c (List.mem_cons_self ..)) hr h1)
      (fun n hn => hns n (List.mem_cons_of_mem _ hn)) h

/-! ## 3. No stage fails with a panic -/

theorem notPanic_of_ne {e : Err} (h : ∀ s, e ≠ .panic s) : NotPanic e := h

theorem DecodeErr.notPanic {e : Err} (h : DecodeErr e) : NotPanic e := by
  rintro s rfl; rcases h with h | ⟨_, h⟩ | ⟨_, h⟩ <;> cases h

theorem ofYaml_np : ∀ (y : Yaml) (e : Err), Value.ofYaml y = .error e → NotPanic e :=
  fun y e h => (ofYaml_decodeErr y e h).notPanic

theorem ofYamlL_np : ∀ (l : List Yaml) (e : Err), ofYamlL l = .error e → NotPanic e :=
  fun l e h => (ofYamlL_decodeErr l e h).notPanic

theorem ofSrc_np {loc : Option (List Str)} {src : ClassSrc} {e : Err}
    (h : NodeM.ofSrc loc src = .error e) : NotPanic e :=
  (ofSrc_decodeErr loc src e h).notPanic

theorem readClass_np {r : Inv} {loc : Option (List Str)} {c : Str} {e : Err}
    (h : readClass r loc c = .error e) : NotPanic e := by
  unfold readClass at h
  simp only [] at h
  split at h
  · split at h <;> cases h
    exact fun _ h => nomatch h
  · cases h; exact fun _ h => nomatch h
  · split at h
    next h2 => cases h; exact ofSrc_np h2
    next => cases h

theorem mergeInto_np {self other : NodeM} {e : Err} (h : mergeInto self other = .error e) :
    NotPanic e := by
  rw [mergeInto_eqB] at h
  exact ErrIn.bind1 (fun _ => mergeEntries_np (m := other.params)) (fun _ => .ok) _ h

theorem resolveClassName_np {fuel : Nat} {params : Mapping} {cls : Str} {e : Err}
    (hp : WFN params.toValue) (h : resolveClassName fuel params cls = .error e) : NotPanic e := by
  unfold resolveClassName at h
  split at h
  · split at h
    next h1 => cases h; exact parse_np h1
    next => cases h
    next t _ =>
      split at h
      next h2 => cases h; exact (noPanicInv fuel).tokRender _ _ _ _ hp h2
      next v st h2 =>
        -- what `Token::render` returns is closed, so `raw_string` succeeds on it
        obtain ⟨t', ht'⟩ := rawString_closed v ((interpInv fuel).tokRender _ _ _ _ _ hp.1 h2).1
        rw [ht'] at h; cases h
  · cases h

/-! ## 4. The class walk: `WFN` is kept, no error is a panic -/

theorem Walk.wfn {r : Inv} (hr : InvOK r) {loc : Option (List Str)} {l seen : List Str}
    {root : NodeM} {seen' : List Str} {root' : NodeM} {tr : List TraceEntry}
    (h : Walk r loc l seen root seen' root' tr) (hroot : root.OK) :
    root'.OK ∧ ∀ t ∈ tr, t.2.OK := by
  induction h with
  | nil => exact ⟨hroot, fun _ ht => nomatch ht⟩
  | seen _ _ _ ih => exact ih hroot
  | ignored _ _ _ _ ih => exact ih hroot
  | load _ _ h2 _ hm _ ih1 ih2 =>
    have hcn := readClass_wfn hr h2
    obtain ⟨h1, t1⟩ := ih1 hroot
    obtain ⟨h3, t2⟩ := ih2 (mergeInto_wfn hcn h1 hm)
    refine ⟨h3, fun t ht => ?_⟩
    rcases List.mem_append.1 ht with h | h
    · exact t1 t h
    · rcases List.mem_cons.1 h with h | h
      · subst h; exact hcn
      · exact t2 t h

theorem walkClasses_wfn {r : Inv} (hr : InvOK r) {n : Nat} {loc : Option (List Str)}
    {l seen : List Str} {root : NodeM} {seen' : List Str} {root' : NodeM} (hroot : root.OK)
    (h : walkClasses n r loc l seen root = .ok (seen', root')) : root'.OK := by
  obtain ⟨tr, ht⟩ := walkClasses_ok_iff.1 h
  exact (Walk.wfn hr (walkClassesT_sound ht) hroot).1

theorem renderImpl_wfn {r : Inv} (hr : InvOK r) {n : Nat} {self : NodeM} {seen : List Str}
    {root : NodeM} {seen' : List Str} {root' : NodeM} (hs : self.OK) (hroot : root.OK)
    (h : renderImpl n r self seen root = .ok (seen', root')) : root'.OK := by
  obtain ⟨tr, ht⟩ := renderImpl_ok_iff.1 h
  obtain ⟨root1, hw, hm⟩ := renderImplT_sound ht
  exact mergeInto_wfn hs (Walk.wfn hr hw hroot).1 hm

theorem walk_np {r : Inv} (hr : InvOK r) : ∀ n : Nat,
    (∀ self seen root, self.OK → root.OK → ErrIn NotPanic (renderImpl n r self seen root)) ∧
    (∀ loc l seen root, root.OK → ErrIn NotPanic (walkClasses n r loc l seen root))
  | 0 => ⟨fun _ _ _ _ _ => .error (fun _ h => nomatch h), fun _ _ _ _ _ => .error (fun _ h => nomatch h)⟩
  | n+1 => by
    have ih := walk_np hr n
    refine ⟨fun self seen root hs hroot => ?_, fun loc l seen root hroot => ?_⟩
    · rw [renderImpl_succB]
      exact .bind2 (ih.2 _ _ _ _ hroot) fun _ _ => .bind1 (fun _ => mergeInto_np) fun _ => .ok
    · cases l with
      | nil => exact .ok
      | cons cls rest =>
        rw [walkClasses_consB]
        refine .bind1 (fun _ => resolveClassName_np hroot) fun c => ?_
        split
        · exact ih.2 _ _ _ _ hroot
        refine .bind1' (fun _ => readClass_np) fun o h2 => ?_
        cases o with
        | none => exact ih.2 _ _ _ _ hroot
        | some cn =>
          have hcn := readClass_wfn hr h2
          exact .bind2' (ih.1 _ _ _ hcn hroot) fun _ _ h3 =>
            ih.2 _ _ _ _ (renderImpl_wfn hr hcn hroot h3)

theorem renderImpl_np {r : Inv} (hr : InvOK r) {n : Nat} {self : NodeM} {seen : List Str}
    {root : NodeM} {e : Err} (hs : self.OK) (hroot : root.OK)
    (h : renderImpl n r self seen root = .error e) : NotPanic e :=
  (walk_np hr n).1 self seen root hs hroot e h

theorem walkClasses_np {r : Inv} (hr : InvOK r) {n : Nat} {loc : Option (List Str)}
    {l seen : List Str} {root : NodeM} {e : Err} (hroot : root.OK)
    (h : walkClasses n r loc l seen root = .error e) : NotPanic e :=
  (walk_np hr n).2 loc l seen root hroot e h

/-! ## 5. The `_reclass_` parameter -/

theorem asReclass_wfn {m : MetaM} {cfg : NodeCfg} {rc : Mapping} (h : m.asReclass cfg = .ok rc) :
    WFN rc.toValue := by
  have hne : m.parts ≠ [] := by
    intro hp
    unfold MetaM.asReclass at h
    rw [hp] at h
    cases h
  rw [asReclass_eq cfg hne, Except.ok.injEq] at h
  subst h
  have hw : ∀ l : List Str, WFL (l.map Value.str) ∧ NoNestL (l.map Value.str) := fun l => by
    induction l with
    | nil => exact ⟨trivial, trivial⟩
    | cons x xs ih => exact ⟨⟨trivial, ih.1⟩, trivial, ih.2⟩
  constructor
  · simp only [Mapping.toValue, nameData, WF, WFEs, keys, List.map_cons, List.map_nil]
    -- `String.toList_ofList` reads the characters off a literal
    rw [String.toList_ofList, String.toList_ofList, String.toList_ofList, String.toList_ofList,
      String.toList_ofList, String.toList_ofList]
    exact ⟨⟨rfl, trivial, rfl, ⟨⟨rfl, trivial, rfl, (hw _).1, rfl, trivial, rfl, trivial, trivial⟩,
      by decide⟩, trivial⟩, by decide⟩
  · simp only [Mapping.toValue, nameData, NoNest, NoNestEs]
    exact ⟨trivial, ⟨trivial, (hw _).2, trivial, trivial, trivial⟩, trivial⟩

theorem asReclass_error {m : MetaM} {cfg : NodeCfg} {e : Err} (h : m.asReclass cfg = .error e) :
    e = .metaParts := by
  by_cases hne : m.parts = []
  · unfold MetaM.asReclass at h
    rw [hne] at h
    exact (Except.error.inj h).symm
  · rw [asReclass_eq cfg hne] at h; cases h

theorem cleanKey_reclassKey : CleanKey (Key.str Extracted.reclassKey.toList).stripPrefix.1 := by
  decide +kernel

theorem baseParams_wfn {rc bp : Mapping} (hrc : WFN rc.toValue)
    (h : ({} : Mapping).insert (.str Extracted.reclassKey.toList) rc.toValue = .ok bp) :
    WFN bp.toValue := by
  refine ⟨insertImpl_wf wfn_empty.1 cleanKey_reclassKey hrc.1 h, ?_⟩
  simp only [Mapping.toValue, NoNest]
  have h0 : noNestPred.PEs ({} : Mapping).es := noNestPred.nilEs
  have h1 : noNestPred.P rc.toValue := hrc.2
  exact noNestPred.insertImpl_pres h0 h1 h

/-! ## 6. `renderNodeSrc` / `renderNode` -/

theorem renderParamsF_np {n : Nat} {m : Mapping} {e : Err} (hm : WFN m.toValue)
    (h : renderParamsF n m = .error e) : NotPanic e :=
  fun s hs => C11.model_total hm.1 hm.2 s (hs ▸ h)

theorem renderNode_cases (r : Inv) (name : Str) :
    (findEntity name r.nodes = none ∧ ∀ fuel, renderNode fuel r name = .error (.unknownNode name)) ∨
    (∃ info w, findEntity name r.nodes = some (info, .bad w) ∧
      ∀ fuel, renderNode fuel r name = .error (.io w)) ∨
    (∃ info src nm, findEntity name r.nodes = some (info, .ok src) ∧
      ∀ fuel, renderNode fuel r name = renderNodeSrc fuel r nm src) := by
  unfold renderNode
  rcases findEntity name r.nodes with _ | ⟨info, src | w⟩
  · exact .inl ⟨rfl, fun _ => rfl⟩
  · exact .inr (.inr ⟨info, src, _, rfl, fun _ => rfl⟩)
  · exact .inr (.inl ⟨info, w, rfl, fun _ => rfl⟩)

theorem nodeSrcOK {r : Inv} (hr : InvOK r) {name : Str} {info : EntityInfo} {src : ClassSrc}
    (h : findEntity name r.nodes = some (info, .ok src)) : SrcOK src :=
  hr.2 _ (findEntity_some_mem h) src rfl

/-- The stages of `renderNodeSrc` before the walk (independent of the fuel): the decoded node and
the parameters of the base node. -/
def nodePrefix (r : Inv) (nmeta : MetaM) (src : ClassSrc) : R (NodeM × Mapping) :=
  match NodeM.ofSrc none src with
  | .error e => .error e
  | .ok self =>
    match nmeta.asReclass r.cfg with
    | .error e => .error e
    | .ok rc =>
      match ({} : Mapping).insert (.str Extracted.reclassKey.toList) rc.toValue with
      | .error e => .error e
      | .ok bp => .ok (self, bp)

/-- The stages of `renderNodeSrc` after the walk: merge the node itself, render the parameters
(with the evaluator's constant budget `defaultFuel`). -/
def finishNode (nmeta : MetaM) (self : NodeM) : R (List Str × NodeM) → R NodeInfoM
  | .error e => .error e
  | .ok (_, root) =>
    match mergeInto self root with
    | .error e => .error e
    | .ok fin =>
      match renderParamsF defaultFuel fin.params with
      | .error e => .error e
      | .ok p => .ok { nmeta := nmeta, apps := fin.apps.items, classes := fin.classes.items, params := p }

theorem nodePrefix_eqB (r : Inv) (nmeta : MetaM) (src : ClassSrc) :
    nodePrefix r nmeta src =
      bind1 (NodeM.ofSrc none src) fun self => bind1 (nmeta.asReclass r.cfg) fun rc =>
        bind1 (({} : Mapping).insert (.str Extracted.reclassKey.toList) rc.toValue) fun bp =>
          .ok (self, bp) := by
  unfold nodePrefix
  rcases NodeM.ofSrc none src with _ | _
  · rfl
  dsimp only [bind1]
  rcases nmeta.asReclass r.cfg with _ | rc
  · rfl
  dsimp only
  rcases ({} : Mapping).insert (.str Extracted.reclassKey.toList) rc.toValue with _ | _ <;> rfl

theorem finishNode_eqB (nmeta : MetaM) (self : NodeM) (x : R (List Str × NodeM)) :
    finishNode nmeta self x =
      bind2 x fun _ root => bind1 (mergeInto self root) fun fin =>
        bind1 (renderParamsF defaultFuel fin.params) fun p =>
          .ok { nmeta := nmeta, apps := fin.apps.items, classes := fin.classes.items, params := p } := by
  rcases x with _ | ⟨_, root⟩
  · rfl
  dsimp only [finishNode, bind2]
  rcases mergeInto self root with _ | fin
  · rfl
  dsimp only [bind1]
  rcases renderParamsF defaultFuel fin.params with _ | _ <;> rfl

theorem renderNodeSrc_eq (fuel : Nat) (r : Inv) (nmeta : MetaM) (src : ClassSrc) :
    renderNodeSrc fuel r nmeta src =
      bind2 (nodePrefix r nmeta src) fun self bp =>
        finishNode nmeta self (renderImpl fuel r { classes := self.classes, params := bp } [] {}) := by
  rw [renderNodeSrc_eqB, nodePrefix_eqB]
  rcases NodeM.ofSrc none src with _ | self
  · rfl
  rcases nmeta.asReclass r.cfg with _ | rc
  · rfl
  dsimp only [bind1]
  rcases ({} : Mapping).insert (.str Extracted.reclassKey.toList) rc.toValue with _ | bp
  · rfl
  exact (finishNode_eqB ..).symm

theorem nodePrefix_ok {r : Inv} {nmeta : MetaM} {src : ClassSrc} {self : NodeM} {bp : Mapping}
    (h : nodePrefix r nmeta src = .ok (self, bp)) :
    ∃ rc, NodeM.ofSrc none src = .ok self ∧ nmeta.asReclass r.cfg = .ok rc ∧
      ({} : Mapping).insert (.str Extracted.reclassKey.toList) rc.toValue = .ok bp := by
  simp only [nodePrefix_eqB, bind1_ok] at h
  obtain ⟨_, e1, rc, e2, _, e3, h⟩ := h
  cases h
  exact ⟨rc, e1, e2, e3⟩

theorem nodePrefix_nofuel (r : Inv) (nmeta : MetaM) (src : ClassSrc) :
    nodePrefix r nmeta src ≠ .error .fuel := by
  intro h
  simp only [nodePrefix_eqB, bind1_err] at h
  rcases h with h | ⟨_, _, h | ⟨_, _, h | ⟨_, _, h⟩⟩⟩
  · exact ofSrc_nofuel none src h
  · cases asReclass_error h
  · exact Termination.ne_fuel_of_helper (insertImpl_helper _ _ _ _ _) h
  · cases h

theorem nodePrefix_wfn {r : Inv} {nmeta : MetaM} {src : ClassSrc} {self : NodeM} {bp : Mapping}
    (hs : SrcOK src) (h : nodePrefix r nmeta src = .ok (self, bp)) :
    self.OK ∧ NodeM.OK { classes := self.classes, params := bp } := by
  obtain ⟨rc, e1, e2, e3⟩ := nodePrefix_ok h
  exact ⟨ofSrc_wfn hs e1, baseParams_wfn (asReclass_wfn e2) e3⟩

theorem renderNodeSrc_fin_wfn {fuel : Nat} {r : Inv} {nmeta : MetaM} {src : ClassSrc}
    {info : NodeInfoM} (hr : InvOK r) (hs : SrcOK src)
    (h : renderNodeSrc fuel r nmeta src = .ok info) :
    ∃ fin : NodeM, fin.OK ∧ renderParamsF defaultFuel fin.params = .ok info.params ∧
      info.apps = fin.apps.items ∧ info.classes = fin.classes.items := by
  obtain ⟨self, rc, bp, seen, root, fin, e1, e2, e3, e4, e5, e6, e7, e8, _⟩ := renderNodeSrc_ok h
  have hbase : NodeM.OK { classes := self.classes, params := bp } :=
    baseParams_wfn (asReclass_wfn e2) e3
  have hroot : root.OK := renderImpl_wfn hr hbase nodeOK_empty e4
  exact ⟨fin, mergeInto_wfn (ofSrc_wfn hs e1) hroot e5, e6, e7, e8⟩

theorem renderNodeSrc_np {fuel : Nat} {r : Inv} {nmeta : MetaM} {src : ClassSrc} {e : Err}
    (hr : InvOK r) (hs : SrcOK src) (h : renderNodeSrc fuel r nmeta src = .error e) :
    NotPanic e := by
  simp only [renderNodeSrc_eqB, bind1_err, bind2_err] at h
  rcases h with h | ⟨self, e1, h | ⟨rc, e2, h | ⟨bp, e3, h⟩⟩⟩
  · exact ofSrc_np h
  · exact asReclass_error h ▸ fun _ h => nomatch h
  · exact insertImpl_np (m := {}) (fc := false) (fo := false) h
  have hbase : NodeM.OK { classes := self.classes, params := bp } :=
    baseParams_wfn (asReclass_wfn e2) e3
  rcases h with h | ⟨seen, root, e4, h | ⟨fin, e5, h | ⟨_, _, h⟩⟩⟩
  · exact renderImpl_np hr hbase nodeOK_empty h
  · exact mergeInto_np h
  · exact renderParamsF_np
      (mergeInto_wfn (ofSrc_wfn hs e1) (renderImpl_wfn hr hbase nodeOK_empty e4) e5) h
  · cases h

theorem renderNode_fin_wfn {fuel : Nat} {r : Inv} {name : Str} {info : NodeInfoM} (hr : InvOK r)
    (h : renderNode fuel r name = .ok info) :
    ∃ fin : NodeM, fin.OK ∧ renderParamsF defaultFuel fin.params = .ok info.params ∧
      info.apps = fin.apps.items ∧ info.classes = fin.classes.items := by
  rcases renderNode_cases r name with ⟨_, h1⟩ | ⟨_, _, _, h1⟩ | ⟨i, src, nm, hf, h1⟩
  · rw [h1] at h; cases h
  · rw [h1] at h; cases h
  · rw [h1] at h; exact renderNodeSrc_fin_wfn hr (nodeSrcOK hr hf) h

theorem renderNode_np {fuel : Nat} {r : Inv} {name : Str} {e : Err} (hr : InvOK r)
    (h : renderNode fuel r name = .error e) : NotPanic e := by
  rcases renderNode_cases r name with ⟨_, h1⟩ | ⟨_, _, _, h1⟩ | ⟨i, src, nm, hf, h1⟩
  · rw [h1] at h; cases h; exact fun _ h => nomatch h
  · rw [h1] at h; cases h; exact fun _ h => nomatch h
  · rw [h1] at h; exact renderNodeSrc_np hr (nodeSrcOK hr hf) h

/-- For the per-node results `(n, renderNode fuel r n)` that `Inventory::render` collects. -/
theorem mem_map_graph {α β : Type} {f : α → β} {l : List α} {a : α} {b : β}
    (h : (a, b) ∈ l.map fun n => (n, f n)) : f a = b := by
  obtain ⟨n, _, hn⟩ := List.mem_map.1 h
  cases hn; rfl

/-! ## 7. Fuel: `renderNode` depends on its fuel only through the class walk -/

theorem renderNodeSrc_settles {n m : Nat} (hle : n ≤ m) {r : Inv} {nmeta : MetaM} {src : ClassSrc}
    (hnf : ∀ self bp, nodePrefix r nmeta src = .ok (self, bp) →
      renderImpl n r { classes := self.classes, params := bp } [] {} ≠ .error .fuel) :
    renderNodeSrc m r nmeta src = renderNodeSrc n r nmeta src := by
  rw [renderNodeSrc_eq, renderNodeSrc_eq]
  rcases hp : nodePrefix r nmeta src with _ | ⟨self, bp⟩
  · rfl
  · simp only [bind2, renderImpl_mono_le hle rfl (hnf self bp hp)]

theorem renderNodeSrc_mono_le {n m : Nat} (hle : n ≤ m) {r : Inv} {nmeta : MetaM} {src : ClassSrc}
    {res : R NodeInfoM} (h : renderNodeSrc n r nmeta src = res) (hne : res ≠ .error .fuel) :
    renderNodeSrc m r nmeta src = res := by
  subst h
  refine renderNodeSrc_settles hle fun self bp hp hc => hne ?_
  rw [renderNodeSrc_eq, hp]
  simp only [bind2, hc]
  rfl

theorem renderNode_mono_le {n m : Nat} (hle : n ≤ m) {r : Inv} {name : Str}
    {res : R NodeInfoM} (h : renderNode n r name = res) (hne : res ≠ .error .fuel) :
    renderNode m r name = res := by
  rcases renderNode_cases r name with ⟨_, h1⟩ | ⟨_, _, _, h1⟩ | ⟨i, src, nm, hf, h1⟩
  · rw [h1] at h ⊢; exact h
  · rw [h1] at h ⊢; exact h
  · rw [h1] at h ⊢; exact renderNodeSrc_mono_le hle h hne

theorem renderNodeSrc_fuel_cases {fuel : Nat} {r : Inv} {nmeta : MetaM} {src : ClassSrc}
    (hr : InvOK r) (hs : SrcOK src) (h : renderNodeSrc fuel r nmeta src = .error .fuel) :
    (∃ self bp, nodePrefix r nmeta src = .ok (self, bp) ∧
      renderImpl fuel r { classes := self.classes, params := bp } [] {} = .error .fuel) ∨
    (∃ fin : NodeM, fin.OK ∧ renderParamsF defaultFuel fin.params = .error .fuel) := by
  rw [renderNodeSrc_eq, bind2_err] at h
  rcases h with h | ⟨self, bp, hp, h⟩
  · exact absurd h (nodePrefix_nofuel r nmeta src)
  · simp only [finishNode_eqB, bind2_err, bind1_err] at h
    rcases h with h | ⟨seen, root, h1, h | ⟨fin, h2, h | ⟨_, _, h⟩⟩⟩
    · exact .inl ⟨self, bp, hp, h⟩
    · exact absurd h (mergeInto_nofuel self root)
    · obtain ⟨hself, hbase⟩ := nodePrefix_wfn hs hp
      exact .inr ⟨fin, mergeInto_wfn hself (renderImpl_wfn hr hbase nodeOK_empty h1) h2, h⟩
    · cases h

/-! ### Plain inventories: a syntactic condition -/

def PlainSrc (src : ClassSrc) : Prop := ∀ cls ∈ src.classes, PlainName cls

def PlainFiles (r : Inv) : Prop :=
  (∀ x ∈ r.classes, ∀ src, x.2.2 = .ok src → PlainSrc src) ∧
  (∀ x ∈ r.nodes, ∀ src, x.2.2 = .ok src → PlainSrc src)

theorem ofSrc_plain {loc : Option (List Str)} {src : ClassSrc} {n : NodeM} (hs : PlainSrc src)
    (h : NodeM.ofSrc loc src = .ok n) : ∀ cls ∈ n.classes.items, PlainName cls := by
  intro cls hcls
  rw [ofSrc_classes_items h] at hcls
  obtain ⟨c, hc, rfl⟩ := List.mem_map.1 (mem_nub.1 hcls).1
  have hd := (mem_nub.1 hc).1
  rw [absClassName_nodot loc (hs c hd).2]; exact hs c hd

/-- `N = (|U| + 1)·(B + 2)` for `U` the class names and `B` the longest include list (cf.
`C01.walk_terminates`). -/
theorem renderNodeSrc_settles_plain {r : Inv} (hr : InvOK r) (hp : PlainFiles r) {nmeta : MetaM}
    {src : ClassSrc} (hso : SrcOK src) (hs : PlainSrc src) :
    ∃ N, (∀ m, N ≤ m → renderNodeSrc m r nmeta src = renderNodeSrc N r nmeta src) ∧
      (renderNodeSrc N r nmeta src = .error .fuel →
        ∃ fin : NodeM, fin.OK ∧ renderParamsF defaultFuel fin.params = .error .fuel) := by
  have hpi : PlainInv r := fun loc c cn h => by
    obtain ⟨info, src, hf, ho⟩ := readClass_some h
    exact ofSrc_plain (hp.1 _ (findEntity_some_mem hf) src rfl) ho
  obtain ⟨U, B, hg, hB, hU⟩ : ∃ U B, GoodInv r U B ∧ src.classes.length ≤ B ∧
      ∀ l, (∀ cls ∈ l, PlainName cls) → GoodList r U none l :=
    ⟨_, _, plain_goodInv hpi (Nat.le_max_left _ _), Nat.le_max_right _ _,
      fun _ => plain_goodList r none⟩
  have hnf : ∀ self bp, nodePrefix r nmeta src = .ok (self, bp) →
      renderImpl ((U.length + 1) * (B + 2)) r { classes := self.classes, params := bp } [] {} ≠
        .error .fuel := by
    intro self bp hpre
    obtain ⟨_, hself, _, _⟩ := nodePrefix_ok hpre
    exact renderImpl_nofuel hg (self := { classes := self.classes, params := bp })
      ⟨Nat.le_trans (ofSrc_classes_length (cn := self) hself) hB, hU self.classes.items (ofSrc_plain hs hself)⟩ [] {}
      (Nat.le_refl _)
  refine ⟨_, fun m hm => renderNodeSrc_settles hm hnf, fun h => ?_⟩
  rcases renderNodeSrc_fuel_cases hr hso h with ⟨self, bp, hpre, hw⟩ | h
  · exact absurd hw (hnf self bp hpre)
  · exact h

/-! ## 8. Executable checkers for the hypotheses, and a small inventory for non-vacuity -/

def keyOKB : Yaml → Bool
  | .str s => decide (CleanKey (Key.stripPrefix (.str s)).1)
  | _ => true

mutual
def singleMarkerB : Yaml → Bool
  | .seq l => singleMarkerLB l
  | .map es => singleMarkerEsB es
  | .tagged _ v => singleMarkerB v
  | _ => true
def singleMarkerLB : List Yaml → Bool
  | [] => true
  | y :: ys => singleMarkerB y && singleMarkerLB ys
def singleMarkerEsB : List (Yaml × Yaml) → Bool
  | [] => true
  | (k, v) :: es => keyOKB k && singleMarkerB v && singleMarkerEsB es
end

theorem keyOKB_sound {y : Yaml} (h : keyOKB y = true) : y.keyOK := by
  cases y <;> simp_all [keyOKB, Yaml.keyOK]

mutual
theorem singleMarkerB_sound : ∀ (y : Yaml), singleMarkerB y = true → SingleMarker y
  | .null, _ => trivial
  | .bool _, _ => trivial
  | .num _, _ => trivial
  | .str _, _ => trivial
  | .seq l, h => singleMarkerLB_sound l h
  | .map es, h => singleMarkerEsB_sound es h
  | .tagged _ v, h => singleMarkerB_sound v h
theorem singleMarkerLB_sound : ∀ (l : List Yaml), singleMarkerLB l = true → SingleMarkerL l
  | [], _ => trivial
  | y :: ys, h => by
    simp only [singleMarkerLB, Bool.and_eq_true] at h
    exact ⟨singleMarkerB_sound y h.1, singleMarkerLB_sound ys h.2⟩
theorem singleMarkerEsB_sound : ∀ (es : List (Yaml × Yaml)), singleMarkerEsB es = true →
    SingleMarkerEs es
  | [], _ => trivial
  | (k, v) :: es, h => by
    simp only [singleMarkerEsB, Bool.and_eq_true] at h
    exact ⟨keyOKB_sound h.1.1, singleMarkerB_sound v h.1.2, singleMarkerEsB_sound es h.2⟩
end

def allFiles (p : ClassSrc → Bool) (l : List (Str × EntityInfo × FileRes)) : Bool :=
  l.all fun x => match x.2.2 with | .ok src => p src | .bad _ => true

theorem allFiles_sound {p : ClassSrc → Bool} {l : List (Str × EntityInfo × FileRes)}
    (h : allFiles p l = true) : ∀ x ∈ l, ∀ src, x.2.2 = .ok src → p src = true := by
  intro x hx src hsrc
  have := List.all_eq_true.1 h x hx
  simpa [hsrc] using this

def invOKB (r : Inv) : Bool :=
  allFiles (fun s => singleMarkerEsB s.params) r.classes &&
  allFiles (fun s => singleMarkerEsB s.params) r.nodes

theorem invOKB_sound {r : Inv} (h : invOKB r = true) : InvOK r := by
  simp only [invOKB, Bool.and_eq_true] at h
  exact ⟨fun x hx src hs => singleMarkerEsB_sound _ (allFiles_sound h.1 x hx src hs),
    fun x hx src hs => singleMarkerEsB_sound _ (allFiles_sound h.2 x hx src hs)⟩

def plainNameB (cls : Str) : Bool :=
  !(strContains cls Extracted.classRefMarker.toList) && !(cls.head? == some '.')

theorem plainNameB_sound {cls : Str} (h : plainNameB cls = true) : PlainName cls := by
  simp only [plainNameB, Bool.and_eq_true, Bool.not_eq_true', beq_eq_false_iff_ne] at h
  exact ⟨h.1, h.2⟩

def plainFilesB (r : Inv) : Bool :=
  allFiles (fun s => s.classes.all plainNameB) r.classes &&
  allFiles (fun s => s.classes.all plainNameB) r.nodes

theorem plainFilesB_sound {r : Inv} (h : plainFilesB r = true) : PlainFiles r := by
  simp only [plainFilesB, Bool.and_eq_true] at h
  exact ⟨fun x hx src hs cls hc =>
      plainNameB_sound (List.all_eq_true.1 (allFiles_sound h.1 x hx src hs) cls hc),
    fun x hx src hs cls hc =>
      plainNameB_sound (List.all_eq_true.1 (allFiles_sound h.2 x hx src hs) cls hc)⟩

/-- A two-class inventory with one node, used by the non-vacuity examples of C07b/C11b/C19b:
`app` includes `base`; there is an overriding key `~b`, a constant key `=k`, layered mappings
under `a`, a reference inside a sequence and a reference into `_reclass_`.  Node `bad` refers to
a parameter that does not exist; node `gone` includes a class that does not exist. -/
def exInvE2E : Inv :=
  let s (x : String) : Yaml := .str x.toList
  let info (p : String) : EntityInfo := { path := [p.toList], loc := [] }
  { classes :=
      [ ("base".toList, info "base.yml",
          .ok { params := [(s "a", .map [(s "x", s "1")]), (s "b", s "${a:x}")] }),
        ("app".toList, info "app.yml",
          .ok { classes := ["base".toList], apps := ["web".toList],
                params := [(s "a", .map [(s "y", .num (.int 2))]), (s "~b", s "over"),
                           (s "l", .seq [s "${a:x}", .bool true, .null])] }) ],
    nodes :=
      [ ("n1".toList, info "n1.yml",
          .ok { classes := ["app".toList], apps := ["db".toList],
                params := [(s "a", .map [(s "z", s "${_reclass_:name:short}")]), (s "=k", s "v")] }),
        ("bad".toList, info "bad.yml",
          .ok { classes := ["app".toList], params := [(s "q", s "${nope}")] }),
        ("gone".toList, info "gone.yml", .ok { classes := ["missing".toList] }),
        ("unreadable".toList, info "unreadable.yml", .bad "EACCES".toList) ] }

theorem exInvE2E_ok : InvOK exInvE2E := invOKB_sound (by decide +kernel)

theorem exInvE2E_plain : PlainFiles exInvE2E := plainFilesB_sound (by decide +kernel)

/-- JSON text of the rendered parameters of a node, through which concrete renders are
compared. -/
def nodeJson (x : R NodeInfoM) : Option Str :=
  match x with
  | .ok info => (match jsonOf info.params.toValue with | .ok t => some t | .error _ => none)
  | .error _ => none

end Reclass
