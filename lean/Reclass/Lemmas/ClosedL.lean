/-
  Reclass.Lemmas.ClosedL — the predicates of `Spec/Closed` (`WF`, `Closed`, `NoStr`, `NoNest`)
  through insert, merge, flatten, the evaluator and the YAML reader; what `interpolate` returns is
  neither a string nor a layer list; the `unreachable!` of `Token::resolve`.

  The proofs about the evaluator go along its bind form (`Lemmas/EvalEq`): a success is taken
  apart with `bind1_ok`/`bind2_ok`, a failure with `bind1_err`/`bind2_err`.  `WF`, `Closed`,
  `NoNest` … of a constructor unfold by definition, so their parts are taken by projection.
-/
import Reclass.Spec.Closed
import Reclass.Lemmas.EvalEq
import Reclass.Lemmas.MappingL
import Reclass.Lemmas.Fuel
namespace Reclass

/-! ## Keys -/

theorem cleanKey_strip {k : Key} (h : CleanKey k) : k.stripPrefix = (k, none) := h

theorem cleanKey_iff (k : Key) :
    CleanKey k ↔ ∀ c cs, k = .str (c :: cs) → c ≠ '=' ∧ c ≠ '~' := by
  constructor
  · rintro h c cs rfl
    constructor
    · rintro rfl; rw [CleanKey, stripPrefix_const] at h; cases h
    · rintro rfl; rw [CleanKey, stripPrefix_override] at h; cases h
  · intro h
    cases k with
    | str s =>
      cases s with
      | nil => rfl
      | cons c cs => exact stripPrefix_str_plain cs (h c cs rfl).1 (h c cs rfl).2
    | _ => rfl

theorem lookup_none_iff {k : Key} {es : List (Key × Value)} :
    lookup k es = none ↔ k ∉ keys es :=
  lookup_eq_none_iff

theorem lookup_some_mem {k : Key} {es : List (Key × Value)} {v : Value}
    (h : lookup k es = some v) : k ∈ keys es :=
  lookup_isSome_iff.1 (h ▸ rfl)

/-! ## insertImpl -/

theorem insertImpl_ok {m m' : Mapping} {k : Key} {v : Value} {fc fo : Bool}
    (h : m.insertImpl k v fc fo = .ok m') :
    (lookup k.stripPrefix.1 m.es = none ∧ m'.es = m.es ++ [(k.stripPrefix.1, v)]) ∨
    ∃ old, lookup k.stripPrefix.1 m.es = some old ∧
      (m'.es = replaceVal k.stripPrefix.1 v m.es ∨
       m'.es = replaceVal k.stripPrefix.1 (combine old v) m.es) := by
  rw [insertImpl_eq] at h
  split at h
  · next hl => cases h; exact .inl ⟨hl, rfl⟩
  · next old hl =>
    split at h
    · cases h
    · cases h
      refine .inr ⟨old, hl, ?_⟩
      dsimp only
      split
      · exact .inl rfl
      · exact .inr rfl

theorem insertImpl_error {m : Mapping} {k : Key} {v : Value} {fc fo : Bool} {e : Err}
    (h : m.insertImpl k v fc fo = .error e) : e = .constKey k.stripPrefix.1 := by
  rw [insertImpl_eq] at h
  split at h
  · cases h
  · split at h
    · cases h; rfl
    · cases h

/-! ## Predicates given by their cons clause -/

section entries
variable {QEs : List (Key × Value) → Prop} {Q : Key → Value → Prop}
  (hcons : ∀ k v es, QEs ((k, v) :: es) ↔ Q k v ∧ QEs es)
include hcons

theorem es_lookup {es : List (Key × Value)} {k : Key} {v : Value}
    (h : QEs es) (hl : lookup k es = some v) : Q k v := by
  induction es with
  | nil => cases hl
  | cons e es ih =>
    obtain ⟨k', v'⟩ := e
    rw [hcons] at h
    rw [lookup_cons] at hl
    split at hl
    · next hk => cases hl; exact hk ▸ h.1
    · exact ih h.2 hl

theorem es_replaceVal {es : List (Key × Value)} {k : Key} {v : Value}
    (h : QEs es) (hv : Q k v) : QEs (replaceVal k v es) := by
  induction es with
  | nil => exact h
  | cons e es ih =>
    obtain ⟨k', v'⟩ := e
    rw [hcons] at h
    unfold replaceVal
    split
    · next hk => exact (hcons ..).2 ⟨hk ▸ hv, h.2⟩
    · exact (hcons ..).2 ⟨h.1, ih h.2⟩

theorem es_append (hnil : QEs []) {es es' : List (Key × Value)} :
    QEs (es ++ es') ↔ QEs es ∧ QEs es' := by
  induction es with
  | nil => simp only [List.nil_append, hnil, true_and]
  | cons e es ih =>
    obtain ⟨k', v'⟩ := e
    simp only [List.cons_append, hcons, ih, and_assoc]

theorem insertImpl_es (hnil : QEs []) {m m' : Mapping} {k : Key} {v : Value} {fc fo : Bool}
    (hm : QEs m.es) (hv : Q k.stripPrefix.1 v)
    (hc : ∀ old, Q k.stripPrefix.1 old → Q k.stripPrefix.1 (combine old v))
    (h : m.insertImpl k v fc fo = .ok m') : QEs m'.es := by
  rcases insertImpl_ok h with ⟨-, he⟩ | ⟨old, hl, he | he⟩ <;> rw [he]
  · exact (es_append hcons hnil).2 ⟨hm, (hcons ..).2 ⟨hv, hnil⟩⟩
  · exact es_replaceVal hcons hm hv
  · exact es_replaceVal hcons hm (hc old (es_lookup hcons hm hl))

end entries

theorem l_append {PL : List Value → Prop} {P : Value → Prop} (hnil : PL [])
    (hcons : ∀ v vs, PL (v :: vs) ↔ P v ∧ PL vs) {a b : List Value} :
    PL (a ++ b) ↔ PL a ∧ PL b := by
  induction a with
  | nil => simp only [List.nil_append, hnil, true_and]
  | cons x a ih => simp only [List.cons_append, hcons, ih, and_assoc]

theorem wfEs_cons (k : Key) (v : Value) (es : List (Key × Value)) :
    WFEs ((k, v) :: es) ↔ (CleanKey k ∧ WF v) ∧ WFEs es := and_assoc.symm

theorem lookup_some_wf {es : List (Key × Value)} {k : Key} {v : Value}
    (h : WFEs es) (hl : lookup k es = some v) : WF v :=
  (es_lookup wfEs_cons h hl).2

theorem combine_vl {P : Value → Prop} (hnil : P (.vl []))
    (hcons : ∀ v vs, P (.vl (v :: vs)) ↔ P v ∧ P (.vl vs)) {a b : Value} (ha : P a) (hb : P b) :
    P (combine a b) := by
  have happ {l l' : List Value} : P (.vl (l ++ l')) ↔ P (.vl l) ∧ P (.vl l') :=
    l_append (PL := fun l => P (.vl l)) hnil hcons
  unfold combine
  split
  · exact happ.2 ⟨ha, hb⟩
  · exact happ.2 ⟨ha, (hcons ..).2 ⟨hb, hnil⟩⟩
  · exact (hcons ..).2 ⟨ha, hb⟩
  · exact (hcons ..).2 ⟨ha, (hcons ..).2 ⟨hb, hnil⟩⟩

theorem combine_wf {old v : Value} (h1 : WF old) (h2 : WF v) : WF (combine old v) :=
  combine_vl trivial (fun _ _ => Iff.rfl) h1 h2

theorem stripPrefix_clean {k : Key} (h : CleanKey k) : k.stripPrefix = (k, none) := cleanKey_strip h

theorem insertImpl_wf {m m' : Mapping} {k : Key} {v : Value} {fc fo : Bool}
    (hm : WF m.toValue) (hk : CleanKey k.stripPrefix.1) (hv : WF v)
    (h : m.insertImpl k v fc fo = .ok m') : WF m'.toValue :=
  ⟨insertImpl_es wfEs_cons trivial hm.1 ⟨hk, hv⟩ (fun _ ho => ⟨hk, combine_wf ho.2 hv⟩) h,
    insertImpl_keys_nodup hm.2 h⟩

theorem insertImpl_fresh_eq (m : Mapping) {k : Key} (v : Value) (fc fo : Bool)
    (hk : CleanKey k) (hn : k ∉ keys m.es) :
    m.insertImpl k v fc fo = .ok ⟨m.es ++ [(k, v)],
      if fc then setInsert k m.ck else m.ck, if fo then setInsert k m.ok else m.ok⟩ := by
  have hs : k.stripPrefix = (k, none) := hk
  rw [insertImpl_absent v fc fo (hs ▸ lookup_none_iff.2 hn), hs]
  rfl

/-! ## Mapping.merge -/

theorem mergeEntries_wf {ock ook : List Key} {es : List (Key × Value)} :
    ∀ {m m' : Mapping}, WF m.toValue → WFEs es →
      m.mergeEntries ock ook es = .ok m' → WF m'.toValue := by
  induction es with
  | nil => intro m m' hm _ h; cases h; exact hm
  | cons e es ih =>
    obtain ⟨k, v⟩ := e
    intro m m' hm hes h
    rw [mergeEntries_consB] at h
    obtain ⟨m1, h1, h⟩ := bind1_ok.1 h
    -- `insertImpl_wf` asks about the stripped key; a clean key is its own stripped key
    exact ih (insertImpl_wf hm (cleanKey_strip hes.1 ▸ hes.1) hes.2.1 h1) hes.2.2 h

theorem merge_wf {a b c : Mapping} (ha : WF a.toValue) (hb : WF b.toValue)
    (h : Mapping.merge a b = .ok c) : WF c.toValue :=
  mergeEntries_wf ha hb.1 h

theorem mergeNonVl_wf {a b r : Value} {st : RState} (ha : WF a) (hb : WF b)
    (h : mergeNonVl a b st = .ok r) : WF r := by
  rcases mergeNonVl_ok h with ⟨-, rfl⟩ | ⟨es, ck, ok, es', ck', ok', m, rfl, rfl, hm, rfl⟩ |
    ⟨s, s', rfl, rfl, rfl⟩ | ⟨-, -, -, rfl⟩
  · exact hb
  · exact merge_wf (a := ⟨es, ck, ok⟩) (b := ⟨es', ck', ok'⟩) ha hb hm
  · exact (l_append (PL := WFL) trivial fun _ _ => Iff.rfl).2 ⟨ha, hb⟩
  · exact hb

/-! ## flattened keeps WF -/

mutual
theorem flat_wf : ∀ (v : Value) (st : RState) (r : Value), WF v → flat v st = .ok r → WF r := by
  intro v st r hv h
  cases v with
  | vl l => exact flatVl_wf l .null st r hv trivial (flat_vl l st ▸ h)
  | map es ck ok =>
    rw [flat_mapB] at h
    obtain ⟨m, h1, h⟩ := bind1_ok.1 h
    cases h
    exact flatEs_wf es ck ok st {} m hv.1 ⟨trivial, List.nodup_nil⟩ h1
  | seq l =>
    rw [flat_seqB] at h
    obtain ⟨l', h1, h⟩ := bind1_ok.1 h
    cases h
    exact flatL_wf l st l' hv h1
  | str _ => rw [flat_str] at h; cases h
  | _ => rw [flat_scalar rfl rfl rfl rfl] at h; cases h; exact hv
theorem flatVl_wf : ∀ (l : List Value) (base : Value) (st : RState) (r : Value),
    WFL l → WF base → flatVl l base st = .ok r → WF r := by
  intro l base st r hl hb h
  cases l with
  | nil => rw [flatVl_nil] at h; cases h; exact hb
  | cons v rest =>
    rw [flatVl_consB] at h
    obtain ⟨b, h1, h⟩ := bind1_ok.1 h
    exact flatVl_wf rest b st r hl.2 (mergeV_wf base v st b hb hl.1 h1) h
theorem mergeV_wf : ∀ (self other : Value) (st : RState) (r : Value),
    WF self → WF other → mergeV self other st = .ok r → WF r := by
  intro self other st r hs ho h
  cases other with
  | null => rw [mergeV_null] at h; cases h; trivial
  | vl l =>
    rw [mergeV_vl] at h
    obtain ⟨o, h1, h⟩ := bind1_ok.1 h
    exact mergeNonVl_wf hs (flatVl_wf l .null st o ho trivial h1) h
  | _ => rw [mergeV_of_not_vl rfl rfl] at h; exact mergeNonVl_wf hs ho h
theorem flatL_wf : ∀ (l : List Value) (st : RState) (r : List Value),
    WFL l → flatL l st = .ok r → WFL r := by
  intro l st r hl h
  cases l with
  | nil => rw [flatL] at h; cases h; trivial
  | cons v vs =>
    rw [flatL_consB] at h
    obtain ⟨x, h1, h⟩ := bind1_ok.1 h
    obtain ⟨xs, h2, h⟩ := bind1_ok.1 h
    cases h
    exact ⟨flat_wf v st x hl.1 h1, flatL_wf vs st xs hl.2 h2⟩
theorem flatEs_wf : ∀ (es : List (Key × Value)) (ck ok : List Key) (st : RState) (acc m : Mapping),
    WFEs es → WF acc.toValue → flatEs es ck ok st acc = .ok m → WF m.toValue := by
  intro es ck ok st acc m hes ha h
  rcases es with _ | ⟨⟨k, v⟩, rest⟩
  · rw [flatEs] at h; cases h; exact ha
  · rw [flatEs_consB] at h
    obtain ⟨v', h1, h⟩ := bind1_ok.1 h
    obtain ⟨acc', h2, h⟩ := bind1_ok.1 h
    exact flatEs_wf rest ck ok st acc' m hes.2.2
      (insertImpl_wf ha (cleanKey_strip hes.1 ▸ hes.1) (flat_wf v st v' hes.2.1 h1) h2) h
end

/-! ## erase -/

theorem keys_eraseEs (es : List (Key × Value)) : keys (eraseEs es) = keys es := by
  induction es with
  | nil => rfl
  | cons e es ih =>
    obtain ⟨k, v⟩ := e
    simp only [eraseEs, keys, List.map_cons] at ih ⊢
    rw [ih]

mutual
theorem closed_erase : ∀ (v : Value), Closed (erase v) ↔ Closed v := by
  intro v
  cases v with
  | map es _ _ => exact closedEs_erase es
  | seq l => exact closedL_erase l
  | _ => exact Iff.rfl
theorem closedL_erase : ∀ (l : List Value), ClosedL (eraseL l) ↔ ClosedL l := by
  intro l
  cases l with
  | nil => exact Iff.rfl
  | cons v vs => exact and_congr (closed_erase v) (closedL_erase vs)
theorem closedEs_erase : ∀ (es : List (Key × Value)), ClosedEs (eraseEs es) ↔ ClosedEs es := by
  intro es
  rcases es with _ | ⟨⟨k, v⟩, es⟩
  · exact Iff.rfl
  · exact and_congr (closed_erase v) (closedEs_erase es)
end

mutual
theorem wf_erase : ∀ (v : Value), WF (erase v) ↔ WF v := by
  intro v
  cases v with
  | map es _ _ => exact and_congr (wfEs_erase es) (by rw [keys_eraseEs])
  | seq l => exact wfL_erase l
  | vl l => exact wfL_erase l
  | _ => exact Iff.rfl
theorem wfL_erase : ∀ (l : List Value), WFL (eraseL l) ↔ WFL l := by
  intro l
  cases l with
  | nil => exact Iff.rfl
  | cons v vs => exact and_congr (wf_erase v) (wfL_erase vs)
theorem wfEs_erase : ∀ (es : List (Key × Value)), WFEs (eraseEs es) ↔ WFEs es := by
  intro es
  rcases es with _ | ⟨⟨k, v⟩, es⟩
  · exact Iff.rfl
  · exact and_congr Iff.rfl (and_congr (wf_erase v) (wfEs_erase es))
end

theorem closed_of_erase_eq {a b : Value} (h : erase a = erase b) (hb : Closed b) : Closed a :=
  (closed_erase a).1 (h ▸ (closed_erase b).2 hb)

theorem wf_of_erase_eq {a b : Value} (h : erase a = erase b) (hb : WF b) : WF a :=
  (wf_erase a).1 (h ▸ (wf_erase b).2 hb)

/-! ## Flattening / interpolating closed data again changes nothing but the flag sets -/

theorem closedEs_append {es es' : List (Key × Value)} :
    ClosedEs (es ++ es') ↔ ClosedEs es ∧ ClosedEs es' :=
  es_append (Q := fun _ v => Closed v) (fun _ _ _ => Iff.rfl) trivial

theorem nodup_keys_step {a : List Key} {k : Key} {b : List Key}
    (h : (a ++ k :: b).Nodup) : k ∉ a ∧ ((a ++ [k]) ++ b).Nodup := by
  constructor
  · intro hk
    rw [List.nodup_append] at h
    exact h.2.2 k hk k (by simp) rfl
  · simpa [List.append_assoc] using h

theorem insertImpl_step {acc : Mapping} {k : Key} {v : Value} {rest : List (Key × Value)}
    (w : Value) (fc fo : Bool) (hk : CleanKey k)
    (hnd : (keys acc.es ++ keys ((k, v) :: rest)).Nodup) :
    acc.insertImpl k w fc fo = .ok ⟨acc.es ++ [(k, w)],
      if fc then setInsert k acc.ck else acc.ck, if fo then setInsert k acc.ok else acc.ok⟩ ∧
    k ∉ keys acc.es ∧ (keys (acc.es ++ [(k, w)]) ++ keys rest).Nodup := by
  have hstep := nodup_keys_step (a := keys acc.es) (k := k) (b := keys rest) hnd
  exact ⟨insertImpl_fresh_eq acc w fc fo hk hstep.1, hstep.1, by simpa [keys] using hstep.2⟩

mutual
theorem flat_id : ∀ (v : Value) (st : RState), Closed v → WF v →
    ∃ r, flat v st = .ok r ∧ erase r = erase v := by
  intro v st hc hv
  cases v with
  | vl l => exact hc.elim
  | str _ => exact hc.elim
  | seq l =>
    obtain ⟨l', h1, h2⟩ := flatL_id l st hc hv
    exact ⟨.seq l', by rw [flat_seqB, h1]; rfl, by rw [erase, h2]; rfl⟩
  | map es ck ok =>
    obtain ⟨m, es', h1, h2, h3⟩ := flatEs_id es ck ok st {} hc hv.1 hv.2
    refine ⟨m.toValue, by rw [flat_mapB, h1]; rfl, ?_⟩
    rw [Mapping.toValue, erase, erase, h2, List.nil_append, h3]
  | _ => exact ⟨_, flat_scalar rfl rfl rfl rfl st, rfl⟩
theorem flatL_id : ∀ (l : List Value) (st : RState), ClosedL l → WFL l →
    ∃ r, flatL l st = .ok r ∧ eraseL r = eraseL l := by
  intro l st hc hl
  cases l with
  | nil => exact ⟨[], by rw [flatL], rfl⟩
  | cons v vs =>
    obtain ⟨x, h1, h2⟩ := flat_id v st hc.1 hl.1
    obtain ⟨xs, h3, h4⟩ := flatL_id vs st hc.2 hl.2
    exact ⟨x :: xs, by rw [flatL_consB, h1, h3]; rfl, by rw [eraseL, h2, h4]; rfl⟩
theorem flatEs_id : ∀ (es : List (Key × Value)) (ck ok : List Key) (st : RState) (acc : Mapping),
    ClosedEs es → WFEs es → (keys acc.es ++ keys es).Nodup →
    ∃ m es', flatEs es ck ok st acc = .ok m ∧ m.es = acc.es ++ es' ∧ eraseEs es' = eraseEs es := by
  intro es ck ok st acc hc hes hnd
  rcases es with _ | ⟨⟨k, v⟩, rest⟩
  · exact ⟨acc, [], by rw [flatEs], (List.append_nil _).symm, rfl⟩
  · obtain ⟨v', h1, h2⟩ := flat_id v st hc.1 hes.2.1
    obtain ⟨hins, -, hnd'⟩ := insertImpl_step v' (decide (k ∈ ck)) (decide (k ∈ ok)) hes.1 hnd
    obtain ⟨m, es', h3, h4, h5⟩ := flatEs_id rest ck ok st ⟨acc.es ++ [(k, v')], _, _⟩
      hc.2 hes.2.2 hnd'
    refine ⟨m, (k, v') :: es', by rw [flatEs_consB, h1, bind1, hins]; exact h3, ?_, ?_⟩
    · rw [h4, List.append_assoc]; rfl
    · rw [eraseEs, eraseEs, h2, h5]
end

theorem size_pos (v : Value) : 0 < size v := by cases v <;> simp only [size] <;> omega
theorem sizeL_pos (l : List Value) : 0 < sizeL l := by cases l <;> simp only [sizeL] <;> omega
theorem sizeEs_pos (es : List (Key × Value)) : 0 < sizeEs es := by
  rcases es with _ | ⟨⟨_, _⟩, _⟩ <;> simp only [sizeEs] <;> omega

mutual
theorem interp_id : ∀ (v : Value) (n : Nat) (root : Mapping) (st : RState), Closed v → WF v →
    size v ≤ n → ∃ r, interp n root v st = .ok (r, st) ∧ erase r = erase v := by
  intro v n root st hc hv hn
  cases n with
  | zero => exact absurd hn (Nat.not_le.2 (size_pos v))
  | succ n =>
    cases v with
    | vl l => exact hc.elim
    | str _ => exact hc.elim
    | seq l =>
      obtain ⟨l', h1, h2⟩ := interpL_id l n root 0 st hc hv (by rw [size] at hn; omega)
      exact ⟨.seq l', by rw [interp_seqB, h1]; rfl, by rw [erase, h2]; rfl⟩
    | map es ck ok =>
      obtain ⟨m, es', h1, h2, h3⟩ := interpEs_id es n root ck ok st {} hc hv.1
        hv.2 (by rw [size] at hn; omega)
      refine ⟨m.toValue, by rw [interp_mapB, h1]; rfl, ?_⟩
      rw [Mapping.toValue, erase, erase, h2, List.nil_append, h3]
    | _ => exact ⟨_, rfl, rfl⟩
theorem interpL_id : ∀ (l : List Value) (n : Nat) (root : Mapping) (idx : Nat) (st : RState),
    ClosedL l → WFL l → sizeL l ≤ n → ∃ r, interpL n root l idx st = .ok r ∧ eraseL r = eraseL l := by
  intro l n root idx st hc hl hn
  cases n with
  | zero => exact absurd hn (Nat.not_le.2 (sizeL_pos l))
  | succ n =>
    cases l with
    | nil => exact ⟨[], rfl, rfl⟩
    | cons v vs =>
      rw [sizeL] at hn
      obtain ⟨x, h1, h2⟩ := interp_id v n root (st.pushListIndex idx) hc.1 hl.1 (by omega)
      obtain ⟨xs, h3, h4⟩ := interpL_id vs n root (idx + 1) st hc.2 hl.2 (by omega)
      exact ⟨x :: xs, by rw [interpL_consB, h1, bind2, h3]; rfl, by rw [eraseL, h2, h4]; rfl⟩
theorem interpEs_id : ∀ (es : List (Key × Value)) (n : Nat) (root : Mapping) (ck ok : List Key)
    (st : RState) (acc : Mapping), ClosedEs es → WFEs es → (keys acc.es ++ keys es).Nodup →
    sizeEs es ≤ n →
    ∃ m es', interpEs n root es ck ok st acc = .ok m ∧ m.es = acc.es ++ es' ∧
      eraseEs es' = eraseEs es := by
  intro es n root ck ok st acc hc hes hnd hn
  cases n with
  | zero => exact absurd hn (Nat.not_le.2 (sizeEs_pos es))
  | succ n =>
    rcases es with _ | ⟨⟨k, v⟩, rest⟩
    · exact ⟨acc, [], rfl, (List.append_nil _).symm, rfl⟩
    · rw [sizeEs] at hn
      obtain ⟨v1, h1, h2⟩ := interp_id v n root (st.pushMappingKey k) hc.1 hes.2.1 (by omega)
      obtain ⟨v2, h1', h2'⟩ := flat_id v1 (st.pushMappingKey k)
        (closed_of_erase_eq h2 hc.1) (wf_of_erase_eq h2 hes.2.1)
      obtain ⟨hins, -, hnd'⟩ := insertImpl_step v2 (decide (k ∈ ck)) (decide (k ∈ ok)) hes.1 hnd
      obtain ⟨m, es', h3, h4, h5⟩ := interpEs_id rest n root ck ok st ⟨acc.es ++ [(k, v2)], _, _⟩
        hc.2 hes.2.2 hnd' (by omega)
      refine ⟨m, (k, v2) :: es', ?_, ?_, ?_⟩
      · rw [interpEs_consB, h1, bind2, h1', bind1, hins]; exact h3
      · rw [h4, List.append_assoc]; rfl
      · rw [eraseEs, eraseEs, h2', h2, h5]
end

/-! ## flattened of a closed value is closed -/

theorem flat_closed (v : Value) (st : RState) (r : Value) (hc : Closed v) (hw : WF v)
    (h : flat v st = .ok r) : Closed r := by
  obtain ⟨r', h1, h2⟩ := flat_id v st hc hw
  cases h.symm.trans h1
  exact closed_of_erase_eq h2 hc

theorem flatL_closed : ∀ (l : List Value) (st : RState) (r : List Value),
    ClosedL l → WFL l → flatL l st = .ok r → ClosedL r := by
  intro l st r hc hw h
  obtain ⟨r', h1, h2⟩ := flatL_id l st hc hw
  cases h.symm.trans h1
  exact (closedL_erase r).1 (h2 ▸ (closedL_erase l).2 hc)

theorem flatEs_closed : ∀ (es : List (Key × Value)) (ck ok : List Key) (st : RState)
    (acc m : Mapping), ClosedEs es → WFEs es → ClosedEs acc.es →
    (keys acc.es ++ keys es).Nodup → flatEs es ck ok st acc = .ok m → ClosedEs m.es := by
  intro es ck ok st acc m hc hw ha hnd h
  obtain ⟨m', es', h1, h2, h3⟩ := flatEs_id es ck ok st acc hc hw hnd
  cases h.symm.trans h1
  exact h2 ▸ closedEs_append.2 ⟨ha, (closedEs_erase es').1 (h3 ▸ (closedEs_erase es).2 hc)⟩

/-! ## interpolate never returns an unparsed string or a layer list (no hypotheses) -/

def NotStrVl (v : Value) : Prop := v.isStr = false ∧ v.isVl = false

theorem notStrVl_iff (v : Value) : NotStrVl v ↔ (∀ s, v ≠ .str s) ∧ (∀ l, v ≠ .vl l) := by
  cases v <;> simp [NotStrVl, Value.isStr, Value.isVl]

theorem interp_tokRender_notStrVl : ∀ n,
    (∀ root v st r st', interp n root v st = .ok (r, st') → NotStrVl r) ∧
    (∀ root t st r st', tokRender n root t st = .ok (r, st') → NotStrVl r) := fun n =>
  ⟨fun _ _ _ _ _ h => ((Termination.outAt n).interp _ _ _ _ _ h).imp_left Termination.strFree_isStr,
    fun _ _ _ _ _ h => ((Termination.outAt n).tokRender _ _ _ _ _ h).imp_left Termination.strFree_isStr⟩

theorem mergeNonVl_notStrVl {a b r : Value} {st : RState} (hb : NotStrVl b)
    (h : mergeNonVl a b st = .ok r) : NotStrVl r := by
  rcases mergeNonVl_ok h with ⟨-, rfl⟩ | ⟨_, _, _, _, _, _, m, -, -, -, rfl⟩ | ⟨s, s', -, -, rfl⟩ |
    ⟨-, -, -, rfl⟩
  · exact hb
  · exact ⟨rfl, rfl⟩
  · exact ⟨rfl, rfl⟩
  · exact hb

mutual
theorem flatVl_notStrVl : ∀ (l : List Value) (base : Value) (st : RState) (r : Value),
    LayersOK l → NotStrVl base → flatVl l base st = .ok r → NotStrVl r := by
  intro l base st r hl hb h
  cases l with
  | nil => rw [flatVl_nil] at h; cases h; exact hb
  | cons v rest =>
    rw [flatVl_consB] at h
    obtain ⟨b, h1, h⟩ := bind1_ok.1 h
    exact flatVl_notStrVl rest b st r hl.2 (mergeV_notStrVl base v st b hl.1 h1) h
theorem mergeV_notStrVl : ∀ (self other : Value) (st : RState) (r : Value),
    LayerOK other → mergeV self other st = .ok r → NotStrVl r := by
  intro self other st r ho h
  cases other with
  | null => rw [mergeV_null] at h; cases h; exact ⟨rfl, rfl⟩
  | vl l =>
    rw [mergeV_vl] at h
    obtain ⟨o, h1, h⟩ := bind1_ok.1 h
    exact mergeNonVl_notStrVl (flatVl_notStrVl l .null st o ho ⟨rfl, rfl⟩ h1) h
  | str _ => exact ho.elim
  | _ => rw [mergeV_of_not_vl rfl rfl] at h; exact mergeNonVl_notStrVl ⟨rfl, rfl⟩ h
end

theorem layerOK_of_notStrVl {v : Value} (h : NotStrVl v) : LayerOK v := by
  cases v with
  | str _ => cases h.1
  | vl _ => cases h.2
  | _ => trivial

def InnerLayersOK (l : List Value) : Prop := ∀ x ∈ l, ∀ l', x = .vl l' → LayersOK l'

theorem layersStr_cons_ok {n : Nat} {root : Mapping} {v : Value} {vs r : List Value} {st : RState}
    (h : layersStr (n+1) root (v :: vs) st = .ok r) :
    ∃ x xs, r = x :: xs ∧ layersStr n root vs st = .ok xs ∧
      ((v.isStr = false ∧ x = v) ∨ (v.isStr = true ∧ ∃ st', interp n root v st = .ok (x, st'))) := by
  rw [layersStr_consB] at h
  obtain ⟨x, hx, h⟩ := bind1_ok.1 h
  obtain ⟨xs, hxs, h⟩ := bind1_ok.1 h
  cases h
  refine ⟨x, xs, rfl, hxs, ?_⟩
  split at hx
  · next hs =>
    obtain ⟨y, st', hy, hx⟩ := bind2_ok.1 hx
    cases hx
    exact .inr ⟨hs, st', hy⟩
  · next hs => cases hx; exact .inl ⟨Bool.not_eq_true _ ▸ hs, rfl⟩

theorem layersStr_layersOK : ∀ (l : List Value) (n : Nat) (root : Mapping) (st : RState)
    (i : List Value), InnerLayersOK l → layersStr n root l st = .ok i → LayersOK i := by
  intro l
  induction l with
  | nil =>
    intro n root st i _ h
    cases n with
    | zero => cases h
    | succ n => cases h; trivial
  | cons v vs ih =>
    intro n root st i hl h
    cases n with
    | zero => cases h
    | succ n =>
      obtain ⟨x, xs, rfl, hxs, hx⟩ := layersStr_cons_ok h
      refine ⟨?_, ih n root st xs (fun y hy => hl y (List.mem_cons_of_mem _ hy)) hxs⟩
      rcases hx with ⟨hs, rfl⟩ | ⟨-, st', hx⟩
      · cases x with
        | str s => cases hs
        | vl l' => exact hl _ List.mem_cons_self l' rfl
        | _ => trivial
      · exact layerOK_of_notStrVl ((interp_tokRender_notStrVl n).1 _ _ _ _ _ hx)

theorem interpStrOrVl_notStrVl {n : Nat} {root : Mapping} {v newv : Value} {st st' : RState}
    (hv : ∀ l, v = .vl l → InnerLayersOK l)
    (h : interpStrOrVl n root v st = .ok (newv, st')) : NotStrVl newv := by
  cases n with
  | zero => cases h
  | succ n =>
    cases v with
    | str s => exact (interp_tokRender_notStrVl n).1 _ _ _ _ _ h
    | vl l =>
      rw [interpStrOrVl_vlB] at h
      obtain ⟨i, h1, h⟩ := bind1_ok.1 h
      obtain ⟨r, h2, h⟩ := bind1_ok.1 h
      cases h
      exact flatVl_notStrVl i .null st newv (layersStr_layersOK l n root st i (hv l rfl) h1)
        ⟨rfl, rfl⟩ h2
    | null | bool _ | num _ | lit _ | map _ _ _ | seq _ => cases h; exact ⟨rfl, rfl⟩

/-! ## The invariant of the 13-way evaluator -/

/-- What every evaluator function guarantees at fuel `n`, for a well-formed root.
`interp`/`interpL`/`interpEs`/`tokRender` return closed, well-formed data; the functions that
hand out raw sub-values of the root (`tokResolve`, `descend`, `finalLoop`, `interpStrOrVl`,
`layersStr`) and the layer fold `interpVl` keep well-formedness.  (`slice` and `sliceFinish`
return text; for `strLoop` see `strLoop_wf` in `Lemmas/TextL`.) -/
structure InterpInv (n : Nat) : Prop where
  interp : ∀ (root : Mapping) (v : Value) (st : RState) (r : Value) (st' : RState),
    WF root.toValue → WF v → interp n root v st = .ok (r, st') → Closed r ∧ WF r
  interpL : ∀ (root : Mapping) (l : List Value) (idx : Nat) (st : RState) (r : List Value),
    WF root.toValue → WFL l → interpL n root l idx st = .ok r → ClosedL r ∧ WFL r
  interpEs : ∀ (root : Mapping) (es : List (Key × Value)) (ck ok : List Key) (st : RState)
    (acc m : Mapping), WF root.toValue → WFEs es → ClosedEs acc.es → WFEs acc.es →
    (keys acc.es ++ keys es).Nodup → interpEs n root es ck ok st acc = .ok m →
    ClosedEs m.es ∧ WF m.toValue
  interpVl : ∀ (root : Mapping) (l : List Value) (r0 : Value) (st : RState) (r : Value),
    WF root.toValue → WFL l → WF r0 → interpVl n root l r0 st = .ok r → WF r
  tokRender : ∀ (root : Mapping) (t : Token) (st : RState) (r : Value) (st' : RState),
    WF root.toValue → tokRender n root t st = .ok (r, st') → Closed r ∧ WF r
  tokResolve : ∀ (root : Mapping) (t : Token) (st : RState) (r : Value) (st' : RState),
    WF root.toValue → tokResolve n root t st = .ok (r, st') → WF r
  descend : ∀ (root : Mapping) (v : Value) (segs : List Str) (st : RState) (path : Str)
    (r : Value) (st' : RState),
    WF root.toValue → WF v → descend n root v segs st path = .ok (r, st') → WF r
  finalLoop : ∀ (root : Mapping) (v : Value) (st : RState) (r : Value) (st' : RState),
    WF root.toValue → WF v → finalLoop n root v st = .ok (r, st') → WF r
  interpStrOrVl : ∀ (root : Mapping) (v : Value) (st : RState) (r : Value) (st' : RState),
    WF root.toValue → WF v → interpStrOrVl n root v st = .ok (r, st') → WF r
  layersStr : ∀ (root : Mapping) (l : List Value) (st : RState) (r : List Value),
    WF root.toValue → WFL l → layersStr n root l st = .ok r → WFL r

theorem descend_cons_ok {n : Nat} {root : Mapping} {v r : Value} {key path : Str} {rest : List Str}
    {st st' : RState} (h : descend (n+1) root v (key :: rest) st path = .ok (r, st')) :
    ∃ es ck ok st1 v', interpStrOrVl n root v st = .ok (.map es ck ok, st1) ∧
      lookup (.str key) es = some v' ∧ descend n root v' rest st1 path = .ok (r, st') := by
  rw [descend_consB] at h
  obtain ⟨newv, st1, h1, h⟩ := bind2_ok.1 h
  cases newv with
  | map es ck ok =>
    dsimp only at h
    split at h
    · cases h
    · next v' h2 => exact ⟨es, ck, ok, st1, v', h1, h2, h⟩
  | _ => cases h

theorem interpInv_succ {n : Nat} (ih : InterpInv n) : InterpInv (n+1) where
  interp root v st r st' hr hv h := by
    cases v with
    | str s =>
      rw [interp_strB] at h
      obtain ⟨o, -, h⟩ := bind1_ok.1 h
      cases o with
      | none => cases h; exact ⟨trivial, trivial⟩
      | some t => exact ih.tokRender _ _ _ _ _ hr h
    | map es ck ok =>
      rw [interp_mapB] at h
      obtain ⟨m, h1, h⟩ := bind1_ok.1 h
      cases h
      exact ih.interpEs root es ck ok st {} m hr hv.1 trivial trivial hv.2 h1
    | seq l =>
      rw [interp_seqB] at h
      obtain ⟨l', h1, h⟩ := bind1_ok.1 h
      cases h
      exact ih.interpL root l 0 st l' hr hv h1
    | vl l =>
      rw [interp_vlB] at h
      obtain ⟨x, h1, h⟩ := bind1_ok.1 h
      exact ih.interp _ _ _ _ _ hr (ih.interpVl root l .null st x hr hv trivial h1) h
    | null | bool _ | num _ | lit _ => cases h; exact ⟨trivial, hv⟩
  interpL root l idx st r hr hl h := by
    cases l with
    | nil => cases h; exact ⟨trivial, trivial⟩
    | cons v vs =>
      rw [interpL_consB] at h
      obtain ⟨x, st1, h1, h⟩ := bind2_ok.1 h
      obtain ⟨xs, h2, h⟩ := bind1_ok.1 h
      cases h
      have a := ih.interp _ _ _ _ _ hr hl.1 h1
      have b := ih.interpL _ _ _ _ _ hr hl.2 h2
      exact ⟨⟨a.1, b.1⟩, ⟨a.2, b.2⟩⟩
  interpEs root es ck ok st acc m hr hes hca hwa hnd h := by
    cases es with
    | nil => cases h; exact ⟨hca, hwa, by simpa using hnd⟩
    | cons e rest =>
      obtain ⟨k, v⟩ := e
      rw [interpEs_consB] at h
      obtain ⟨v1, st1, h1, h⟩ := bind2_ok.1 h
      obtain ⟨v2, h2, h⟩ := bind1_ok.1 h
      have a := ih.interp _ _ _ _ _ hr hes.2.1 h1
      obtain ⟨hins, -, hnd'⟩ := insertImpl_step v2 (decide (k ∈ ck)) (decide (k ∈ ok)) hes.1 hnd
      rw [hins] at h
      exact ih.interpEs root rest ck ok st ⟨acc.es ++ [(k, v2)], _, _⟩ m hr hes.2.2
        (closedEs_append.2 ⟨hca, flat_closed v1 st1 v2 a.1 a.2 h2, trivial⟩)
        ((es_append wfEs_cons trivial).2 ⟨hwa, hes.1, flat_wf v1 st1 v2 a.2 h2, trivial⟩) hnd' h
  interpVl root l r0 st r hr hl h0 h := by
    cases l with
    | nil => cases h; exact h0
    | cons v vs =>
      rw [interpVl_consB] at h
      obtain ⟨x, st1, h1, h⟩ := bind2_ok.1 h
      obtain ⟨r1, h2, h⟩ := bind1_ok.1 h
      have a := ih.interp _ _ _ _ _ hr hl.1 h1
      exact ih.interpVl _ _ _ _ _ hr hl.2 (mergeV_wf r0 x st1 r1 h0 a.2 h2) h
  tokRender root t st r st' hr h := by
    rw [tokRender_succB] at h
    obtain ⟨v, st1, h1, h⟩ := bind2_ok.1 h
    cases t with
    | ref parts => exact ih.interp _ _ _ _ _ hr (ih.tokResolve _ _ _ _ _ hr h1) h
    | lit s | combined ts =>
      obtain ⟨s', -, h⟩ := bind1_ok.1 h
      cases h; exact ⟨trivial, trivial⟩
  tokResolve root t st r st' hr h := by
    cases t with
    | lit s => cases h; trivial
    | combined ts =>
      rw [tokResolve_combinedB] at h
      obtain ⟨s, -, h⟩ := bind1_ok.1 h
      cases h; trivial
    | ref parts =>
      obtain ⟨-, path, k0, segs, v0, v, st3, -, -, -, h0, h3, h⟩ := tokResolve_ref_ok h
      exact ih.finalLoop _ _ _ _ _ hr
        (ih.descend _ _ _ _ _ _ _ hr (lookup_some_wf hr.1 h0) h3) h
  descend root v segs st path r st' hr hv h := by
    cases segs with
    | nil => cases h; exact hv
    | cons key rest =>
      obtain ⟨es, ck, ok, st1, v', h1, h2, h⟩ := descend_cons_ok h
      have hn := ih.interpStrOrVl _ _ _ _ _ hr hv h1
      exact ih.descend _ _ _ _ _ _ _ hr (lookup_some_wf hn.1 h2) h
  finalLoop root v st r st' hr hv h := by
    rw [finalLoop_succB] at h
    split at h
    · obtain ⟨v1, st1, h1, h⟩ := bind2_ok.1 h
      exact ih.finalLoop _ _ _ _ _ hr (ih.interp _ _ _ _ _ hr hv h1).2 h
    · cases h; exact hv
  interpStrOrVl root v st r st' hr hv h := by
    cases v with
    | str s => exact (ih.interp _ _ _ _ _ hr hv h).2
    | vl l =>
      rw [interpStrOrVl_vlB] at h
      obtain ⟨i, h1, h⟩ := bind1_ok.1 h
      obtain ⟨x, h2, h⟩ := bind1_ok.1 h
      cases h
      exact flatVl_wf i .null st r (ih.layersStr _ _ _ _ hr hv h1) trivial h2
    | null | bool _ | num _ | lit _ | map _ _ _ | seq _ => cases h; exact hv
  layersStr root l st r hr hl h := by
    cases l with
    | nil => cases h; trivial
    | cons v vs =>
      obtain ⟨x, xs, rfl, hxs, hx⟩ := layersStr_cons_ok h
      refine ⟨?_, ih.layersStr _ _ _ _ hr hl.2 hxs⟩
      rcases hx with ⟨-, rfl⟩ | ⟨-, st', hx⟩
      · exact hl.1
      · exact (ih.interp _ _ _ _ _ hr hl.1 hx).2

theorem interpInv : ∀ n, InterpInv n
  | 0 => by constructor <;> intros <;> contradiction
  | n+1 => interpInv_succ (interpInv n)

/-! ## From YAML -/

theorem ofYaml_seqB (l : List Yaml) :
    Value.ofYaml (.seq l) = bind1 (ofYamlL l) fun l' => .ok (.seq l') := by
  rw [Value.ofYaml]; rcases ofYamlL l with _ | _ <;> rfl

theorem ofYaml_mapB (es : List (Yaml × Yaml)) :
    Value.ofYaml (.map es) = bind1 (ofYamlEs es {}) fun m => .ok m.toValue := by
  rw [Value.ofYaml]; rcases ofYamlEs es {} with _ | _ <;> rfl

theorem ofYamlL_consB (y : Yaml) (ys : List Yaml) :
    ofYamlL (y :: ys) =
      bind1 (Value.ofYaml y) fun v => bind1 (ofYamlL ys) fun vs => .ok (v :: vs) := by
  rw [ofYamlL]
  rcases Value.ofYaml y with _ | _
  · rfl
  dsimp only [bind1]
  rcases ofYamlL ys with _ | _ <;> rfl

theorem ofYamlEs_consB (k v : Yaml) (rest : List (Yaml × Yaml)) (m : Mapping) :
    ofYamlEs ((k, v) :: rest) m =
      bind1 (Key.ofYaml k) fun k' => bind1 (Value.ofYaml v) fun v' =>
        bind1 (m.insert k' v') fun m' => ofYamlEs rest m' := by
  rw [ofYamlEs]
  rcases Key.ofYaml k with _ | k'
  · rfl
  dsimp only [bind1]
  rcases Value.ofYaml v with _ | v'
  · rfl
  dsimp only
  rcases m.insert k' v' with _ | _ <;> rfl

theorem keyOfYaml_clean {y : Yaml} {k : Key} (hy : y.keyOK) (h : Key.ofYaml y = .ok k) :
    CleanKey k.stripPrefix.1 := by
  cases y with
  | str s => cases h; exact hy
  | null | bool b | num n => cases h; rfl
  | seq _ | map _ | tagged _ _ => cases h

mutual
theorem ofYaml_wf : ∀ (y : Yaml) (v : Value), SingleMarker y → Value.ofYaml y = .ok v → WF v := by
  intro y v hy h
  cases y with
  | seq l =>
    rw [ofYaml_seqB] at h
    obtain ⟨l', h1, h⟩ := bind1_ok.1 h
    cases h
    exact ofYamlL_wf l l' hy h1
  | map es =>
    rw [ofYaml_mapB] at h
    obtain ⟨m, h1, h⟩ := bind1_ok.1 h
    cases h
    exact ofYamlEs_wf es {} m hy ⟨trivial, List.nodup_nil⟩ h1
  | tagged _ _ => cases h
  | _ => cases h; trivial
theorem ofYamlL_wf : ∀ (l : List Yaml) (r : List Value), SingleMarkerL l → ofYamlL l = .ok r → WFL r := by
  intro l r hy h
  cases l with
  | nil => cases h; trivial
  | cons y ys =>
    rw [ofYamlL_consB] at h
    obtain ⟨v, h1, h⟩ := bind1_ok.1 h
    obtain ⟨vs, h2, h⟩ := bind1_ok.1 h
    cases h
    exact ⟨ofYaml_wf y v hy.1 h1, ofYamlL_wf ys vs hy.2 h2⟩
theorem ofYamlEs_wf : ∀ (es : List (Yaml × Yaml)) (m m' : Mapping), SingleMarkerEs es →
    WF m.toValue → ofYamlEs es m = .ok m' → WF m'.toValue := by
  intro es m m' hy hm h
  rcases es with _ | ⟨⟨k, v⟩, rest⟩
  · cases h; exact hm
  · rw [ofYamlEs_consB] at h
    obtain ⟨k', h1, h⟩ := bind1_ok.1 h
    obtain ⟨v', h2, h⟩ := bind1_ok.1 h
    obtain ⟨m1, h3, h⟩ := bind1_ok.1 h
    exact ofYamlEs_wf rest m1 m' hy.2.2
      (insertImpl_wf hm (keyOfYaml_clean hy.1 h1) (ofYaml_wf v v' hy.2.1 h2) h3) h
end

/-! ## Keys and flag sets of a flattened / interpolated well-formed mapping -/

theorem flag_step (k x : Key) (s acc rest : List Key) :
    (x ∈ (if decide (k ∈ s) = true then setInsert k acc else acc) ∨ (x ∈ rest ∧ x ∈ s)) ↔
      (x ∈ acc ∨ (x ∈ k :: rest ∧ x ∈ s)) := by
  rw [mem_ite_setInsert, List.mem_cons, decide_eq_true_eq]
  constructor
  · rintro ((h | ⟨rfl, h⟩) | ⟨h, h'⟩)
    · exact .inl h
    · exact .inr ⟨.inl rfl, h⟩
    · exact .inr ⟨.inr h, h'⟩
  · rintro (h | ⟨rfl | h, h'⟩)
    · exact .inl (.inl h)
    · exact .inl (.inr ⟨rfl, h'⟩)
    · exact .inr ⟨h, h'⟩

theorem flatEs_shape {ck ok : List Key} {st : RState} : ∀ (es : List (Key × Value)) (acc m : Mapping),
    WFEs es → (keys acc.es ++ keys es).Nodup → flatEs es ck ok st acc = .ok m →
    keys m.es = keys acc.es ++ keys es ∧
    (∀ x, x ∈ m.ck ↔ x ∈ acc.ck ∨ (x ∈ keys es ∧ x ∈ ck)) ∧
    (∀ x, x ∈ m.ok ↔ x ∈ acc.ok ∨ (x ∈ keys es ∧ x ∈ ok)) := by
  intro es
  induction es with
  | nil => intro acc m _ _ h; rw [flatEs] at h; cases h; simp [keys]
  | cons e rest ih =>
    obtain ⟨k, v⟩ := e
    intro acc m hes hnd h
    rw [flatEs_consB] at h
    obtain ⟨v', -, h⟩ := bind1_ok.1 h
    obtain ⟨hins, -, hnd'⟩ := insertImpl_step v' (decide (k ∈ ck)) (decide (k ∈ ok)) hes.1 hnd
    rw [hins] at h
    obtain ⟨a, b, c⟩ := ih _ m hes.2.2 hnd' h
    refine ⟨by simp [a, keys], ?_, ?_⟩
    · intro x; rw [b x]; exact flag_step k x ck acc.ck (keys rest)
    · intro x; rw [c x]; exact flag_step k x ok acc.ok (keys rest)

theorem interpEs_shape {root : Mapping} {ck ok : List Key} {st : RState} :
    ∀ (es : List (Key × Value)) (n : Nat) (acc m : Mapping),
    WFEs es → (keys acc.es ++ keys es).Nodup → interpEs n root es ck ok st acc = .ok m →
    keys m.es = keys acc.es ++ keys es ∧
    (∀ x, x ∈ m.ck ↔ x ∈ acc.ck ∨ (x ∈ keys es ∧ x ∈ ck)) ∧
    (∀ x, x ∈ m.ok ↔ x ∈ acc.ok ∨ (x ∈ keys es ∧ x ∈ ok)) := by
  intro es
  induction es with
  | nil =>
    intro n acc m _ _ h
    cases n with
    | zero => cases h
    | succ n => cases h; simp [keys]
  | cons e rest ih =>
    obtain ⟨k, v⟩ := e
    intro n acc m hes hnd h
    cases n with
    | zero => cases h
    | succ n =>
      rw [interpEs_consB] at h
      obtain ⟨v1, st1, -, h⟩ := bind2_ok.1 h
      obtain ⟨v2, -, h⟩ := bind1_ok.1 h
      obtain ⟨hins, -, hnd'⟩ := insertImpl_step v2 (decide (k ∈ ck)) (decide (k ∈ ok)) hes.1 hnd
      rw [hins] at h
      obtain ⟨a, b, c⟩ := ih n _ m hes.2.2 hnd' h
      refine ⟨by simp [a, keys], ?_, ?_⟩
      · intro x; rw [b x]; exact flag_step k x ck acc.ck (keys rest)
      · intro x; rw [c x]; exact flag_step k x ok acc.ok (keys rest)

theorem renderParamsF_ok {n : Nat} {m out : Mapping} :
    renderParamsF n m = .ok out ↔ renderedF n m.toValue m = .ok out.toValue := by
  unfold renderParamsF
  split
  · next h => rw [h]; exact ⟨fun h' => (by cases h'), fun h' => (by cases h')⟩
  · next h => rw [h]; exact ⟨fun h' => by cases h'; rfl, fun h' => by cases out; cases h'; rfl⟩
  · next hv h =>
    exact ⟨fun h' => (by cases h'), fun h' => (hv _ _ _ (Except.ok.inj (h.symm.trans h'))).elim⟩

theorem renderParamsF_error {n : Nat} {m : Mapping} {e : Err} (h : renderParamsF n m = .error e) :
    renderedF n m.toValue m = .error e ∨ ∃ k, e = .notMapping k := by
  unfold renderParamsF at h
  split at h
  · next h1 => cases h; exact .inl h1
  · cases h
  · cases h; exact .inr ⟨_, rfl⟩

theorem renderParamsF_shape {n : Nat} {m out : Mapping} (hm : WF m.toValue)
    (h : renderParamsF n m = .ok out) :
    keys out.es = keys m.es ∧
    (∀ x, x ∈ out.ck ↔ x ∈ m.ck ∧ x ∈ keys m.es) ∧
    (∀ x, x ∈ out.ok ↔ x ∈ m.ok ∧ x ∈ keys m.es) := by
  rw [renderParamsF_ok, renderedF_eqB] at h
  obtain ⟨v1, st1, h1, h⟩ := bind2_ok.1 h
  have hw1 := ((interpInv n).interp _ _ _ _ _ hm hm h1).2
  cases n with
  | zero => cases h1
  | succ n =>
    rw [Mapping.toValue, interp_mapB] at h1
    obtain ⟨m1, hm1, hv1⟩ := bind1_ok.1 h1
    cases hv1
    rw [Mapping.toValue, flat_mapB] at h
    obtain ⟨m2, h2, h⟩ := bind1_ok.1 h
    cases out; cases h
    obtain ⟨a1, b1, c1⟩ := interpEs_shape m.es n {} m1 hm.1 hm.2 hm1
    obtain ⟨a2, b2, c2⟩ := flatEs_shape m1.es {} m2 hw1.1 hw1.2 h2
    simp only [keys, List.map_nil, List.nil_append,
      List.not_mem_nil, false_or] at a1 b1 c1 a2 b2 c2
    refine ⟨by simp only [keys, a2, a1], ?_, ?_⟩
    · intro x; simp only [b2 x, a1, b1 x, keys]; constructor
      · rintro ⟨_, h1, h2⟩; exact ⟨h2, h1⟩
      · rintro ⟨h1, h2⟩; exact ⟨h2, h2, h1⟩
    · intro x; simp only [c2 x, a1, c1 x, keys]; constructor
      · rintro ⟨_, h1, h2⟩; exact ⟨h2, h1⟩
      · rintro ⟨h1, h2⟩; exact ⟨h2, h2, h1⟩

/-! ## Generic preservation: predicates on values that survive merging and flattening -/

structure ValPred where
  P : Value → Prop
  PL : List Value → Prop
  PEs : List (Key × Value) → Prop
  nilL : PL []
  consL : ∀ v vs, PL (v :: vs) ↔ P v ∧ PL vs
  nilEs : PEs []
  consEs : ∀ k v es, PEs ((k, v) :: es) ↔ P v ∧ PEs es
  map : ∀ es ck ok, P (.map es ck ok) ↔ PEs es
  seq : ∀ l, P (.seq l) ↔ PL l
  vlL : ∀ l, P (.vl l) → PL l
  null : P .null
  combine : ∀ a b, P a → P b → P (combine a b)

namespace ValPred
variable (S : ValPred)

theorem lookupEs {es : List (Key × Value)} {k : Key} {v : Value}
    (h : S.PEs es) (hl : lookup k es = some v) : S.P v :=
  es_lookup S.consEs h hl

theorem insertImpl_pres {m m' : Mapping} {k : Key} {v : Value} {fc fo : Bool}
    (hm : S.PEs m.es) (hv : S.P v) (h : m.insertImpl k v fc fo = .ok m') : S.PEs m'.es :=
  insertImpl_es S.consEs S.nilEs hm hv (fun _ ho => S.combine _ _ ho hv) h

theorem mergeEntries_pres {ock ook : List Key} {es : List (Key × Value)} :
    ∀ {m m' : Mapping}, S.PEs m.es → S.PEs es →
      m.mergeEntries ock ook es = .ok m' → S.PEs m'.es := by
  induction es with
  | nil => intro m m' hm _ h; cases h; exact hm
  | cons e es ih =>
    obtain ⟨k, v⟩ := e
    intro m m' hm hes h
    rw [S.consEs] at hes
    rw [mergeEntries_consB] at h
    obtain ⟨m1, h1, h⟩ := bind1_ok.1 h
    exact ih (S.insertImpl_pres hm hes.1 h1) hes.2 h

theorem mergeNonVl_pres {a b r : Value} {st : RState} (ha : S.P a) (hb : S.P b)
    (h : mergeNonVl a b st = .ok r) : S.P r := by
  rcases mergeNonVl_ok h with ⟨-, rfl⟩ | ⟨es, ck, ok, es', ck', ok', m, rfl, rfl, hm, rfl⟩ |
    ⟨s, s', rfl, rfl, rfl⟩ | ⟨-, -, -, rfl⟩
  · exact hb
  · exact (S.map ..).2 (S.mergeEntries_pres (m := ⟨es, ck, ok⟩) ((S.map ..).1 ha) ((S.map ..).1 hb) hm)
  · exact (S.seq _).2 ((l_append S.nilL S.consL).2 ⟨(S.seq _).1 ha, (S.seq _).1 hb⟩)
  · exact hb

mutual
theorem flat_pres : ∀ (v : Value) (st : RState) (r : Value), S.P v → flat v st = .ok r → S.P r := by
  intro v st r hv h
  cases v with
  | vl l => exact flatVl_pres l .null st r (S.vlL l hv) S.null (flat_vl l st ▸ h)
  | map es ck ok =>
    rw [flat_mapB] at h
    obtain ⟨m, h1, h⟩ := bind1_ok.1 h
    cases h
    exact (S.map ..).2 (flatEs_pres es ck ok st {} m ((S.map ..).1 hv) S.nilEs h1)
  | seq l =>
    rw [flat_seqB] at h
    obtain ⟨l', h1, h⟩ := bind1_ok.1 h
    cases h
    exact (S.seq _).2 (flatL_pres l st l' ((S.seq _).1 hv) h1)
  | str _ => rw [flat_str] at h; cases h
  | _ => rw [flat_scalar rfl rfl rfl rfl] at h; cases h; exact hv
theorem flatVl_pres : ∀ (l : List Value) (base : Value) (st : RState) (r : Value),
    S.PL l → S.P base → flatVl l base st = .ok r → S.P r := by
  intro l base st r hl hb h
  cases l with
  | nil => rw [flatVl_nil] at h; cases h; exact hb
  | cons v rest =>
    rw [S.consL] at hl
    rw [flatVl_consB] at h
    obtain ⟨b, h1, h⟩ := bind1_ok.1 h
    exact flatVl_pres rest b st r hl.2 (mergeV_pres base v st b hb hl.1 h1) h
theorem mergeV_pres : ∀ (self other : Value) (st : RState) (r : Value),
    S.P self → S.P other → mergeV self other st = .ok r → S.P r := by
  intro self other st r hs ho h
  cases other with
  | null => rw [mergeV_null] at h; cases h; exact S.null
  | vl l =>
    rw [mergeV_vl] at h
    obtain ⟨o, h1, h⟩ := bind1_ok.1 h
    exact S.mergeNonVl_pres hs (flatVl_pres l .null st o (S.vlL l ho) S.null h1) h
  | _ => rw [mergeV_of_not_vl rfl rfl] at h; exact S.mergeNonVl_pres hs ho h
theorem flatL_pres : ∀ (l : List Value) (st : RState) (r : List Value),
    S.PL l → flatL l st = .ok r → S.PL r := by
  intro l st r hl h
  cases l with
  | nil => rw [flatL] at h; cases h; exact S.nilL
  | cons v vs =>
    rw [S.consL] at hl
    rw [flatL_consB] at h
    obtain ⟨x, h1, h⟩ := bind1_ok.1 h
    obtain ⟨xs, h2, h⟩ := bind1_ok.1 h
    cases h
    exact (S.consL _ _).2 ⟨flat_pres v st x hl.1 h1, flatL_pres vs st xs hl.2 h2⟩
theorem flatEs_pres : ∀ (es : List (Key × Value)) (ck ok : List Key) (st : RState) (acc m : Mapping),
    S.PEs es → S.PEs acc.es → flatEs es ck ok st acc = .ok m → S.PEs m.es := by
  intro es ck ok st acc m hes ha h
  rcases es with _ | ⟨⟨k, v⟩, rest⟩
  · rw [flatEs] at h; cases h; exact ha
  · rw [S.consEs] at hes
    rw [flatEs_consB] at h
    obtain ⟨v', h1, h⟩ := bind1_ok.1 h
    obtain ⟨acc', h2, h⟩ := bind1_ok.1 h
    exact flatEs_pres rest ck ok st acc' m hes.2
      (S.insertImpl_pres ha (flat_pres v st v' hes.1 h1) h2) h
end

end ValPred

/-! ### Instances: `NoStr` and `NoNest` -/

theorem isVl_false_iff {v : Value} : v.isVl = false ↔ ∀ l, v ≠ .vl l := by
  cases v <;> simp [Value.isVl]

theorem noNest_vl_cons {x : Value} {l : List Value} :
    NoNest (.vl (x :: l)) ↔ NoNest x ∧ x.isVl = false ∧ NoNest (.vl l) := by
  simp only [NoNest, NoNestL, List.forall_mem_cons]
  exact ⟨fun ⟨⟨a, b⟩, c, d⟩ => ⟨a, c, b, d⟩, fun ⟨a, c, b, d⟩ => ⟨⟨a, b⟩, c, d⟩⟩

theorem noNest_vl_append {a b : List Value} :
    NoNest (.vl (a ++ b)) ↔ NoNest (.vl a) ∧ NoNest (.vl b) := by
  induction a with
  | nil => simp [NoNest, NoNestL]
  | cons x a ih => simp only [List.cons_append, noNest_vl_cons, ih, and_assoc]

def noStrPred : ValPred where
  P := NoStr
  PL := NoStrL
  PEs := NoStrEs
  nilL := trivial
  consL _ _ := Iff.rfl
  nilEs := trivial
  consEs _ _ _ := Iff.rfl
  map _ _ _ := Iff.rfl
  seq _ := Iff.rfl
  vlL _ h := h
  null := trivial
  combine _ _ := combine_vl trivial fun _ _ => Iff.rfl

def noNestPred : ValPred where
  P := NoNest
  PL := NoNestL
  PEs := NoNestEs
  nilL := trivial
  consL _ _ := Iff.rfl
  nilEs := trivial
  consEs _ _ _ := Iff.rfl
  map _ _ _ := Iff.rfl
  seq _ := Iff.rfl
  vlL _ h := h.1
  null := trivial
  combine := by
    intro a b ha hb
    have nil : NoNest (.vl []) := ⟨trivial, fun _ h => absurd h List.not_mem_nil⟩
    unfold Reclass.combine
    split
    · exact noNest_vl_append.2 ⟨ha, hb⟩
    · next hb' => exact noNest_vl_append.2 ⟨ha, noNest_vl_cons.2 ⟨hb, isVl_false_iff.2 hb', nil⟩⟩
    · next ha' => exact noNest_vl_cons.2 ⟨ha, isVl_false_iff.2 ha', hb⟩
    · next ha' hb' _ =>
      exact noNest_vl_cons.2 ⟨ha, isVl_false_iff.2 ha', noNest_vl_cons.2 ⟨hb, isVl_false_iff.2 hb', nil⟩⟩

/-! ## No nested layer lists: kept by everything that hands out values -/

mutual
theorem closed_noNest : ∀ (v : Value), Closed v → NoNest v
  | .map es _ _, h => closedEs_noNest es h
  | .seq l, h => closedL_noNest l h
  | .vl _, h => h.elim
  | .str _, _ | .null, _ | .bool _, _ | .num _, _ | .lit _, _ => trivial
theorem closedL_noNest : ∀ (l : List Value), ClosedL l → NoNestL l
  | [], _ => trivial
  | v :: vs, h => ⟨closed_noNest v h.1, closedL_noNest vs h.2⟩
theorem closedEs_noNest : ∀ (es : List (Key × Value)), ClosedEs es → NoNestEs es
  | [], _ => trivial
  | (_, v) :: es, h => ⟨closed_noNest v h.1, closedEs_noNest es h.2⟩
end

def WFN (v : Value) : Prop := WF v ∧ NoNest v

theorem wfn_lookup {es : List (Key × Value)} {ck ok : List Key} {k : Key} {v : Value}
    (h : WFN (.map es ck ok)) (hl : lookup k es = some v) : WFN v :=
  ⟨lookup_some_wf h.1.1 hl, noNestPred.lookupEs h.2 hl⟩

/-- `NoNest` postconditions at fuel `n` (well-formedness comes from `interpInv`). -/
structure NNInv (n : Nat) : Prop where
  tokResolve : ∀ (root : Mapping) (t : Token) (st : RState) (r : Value) (st' : RState),
    WFN root.toValue → tokResolve n root t st = .ok (r, st') → NoNest r
  descend : ∀ (root : Mapping) (v : Value) (segs : List Str) (st : RState) (path : Str)
    (r : Value) (st' : RState),
    WFN root.toValue → WFN v → descend n root v segs st path = .ok (r, st') → NoNest r
  finalLoop : ∀ (root : Mapping) (v : Value) (st : RState) (r : Value) (st' : RState),
    WFN root.toValue → WFN v → finalLoop n root v st = .ok (r, st') → NoNest r
  interpStrOrVl : ∀ (root : Mapping) (v : Value) (st : RState) (r : Value) (st' : RState),
    WFN root.toValue → WFN v → interpStrOrVl n root v st = .ok (r, st') → NoNest r
  layersStr : ∀ (root : Mapping) (l : List Value) (st : RState) (r : List Value),
    WFN root.toValue → WFL l → NoNestL l → layersStr n root l st = .ok r → NoNestL r
  strLoop : ∀ (root : Mapping) (v : Value) (st : RState) (r : Value) (st' : RState),
    WFN root.toValue → WFN v → strLoop n root v st = .ok (r, st') → WFN r

theorem interp_wfn {n : Nat} {root : Mapping} {v r : Value} {st st' : RState}
    (hr : WFN root.toValue) (hv : WF v) (h : interp n root v st = .ok (r, st')) : WFN r :=
  have := (interpInv n).interp _ _ _ _ _ hr.1 hv h
  ⟨this.2, closed_noNest r this.1⟩

theorem nnInv_succ {n : Nat} (ih : NNInv n) : NNInv (n+1) where
  tokResolve root t st r st' hr h := by
    cases t with
    | lit s => cases h; trivial
    | combined ts =>
      rw [tokResolve_combinedB] at h
      obtain ⟨s, -, h⟩ := bind1_ok.1 h
      cases h; trivial
    | ref parts =>
      obtain ⟨-, path, k0, segs, v0, v, st3, -, -, -, h0, h3, h⟩ := tokResolve_ref_ok h
      have hv0 : WFN v0 := wfn_lookup (ck := root.ck) (ok := root.ok) hr h0
      exact ih.finalLoop _ _ _ _ _ hr
        ⟨(interpInv n).descend _ _ _ _ _ _ _ hr.1 hv0.1 h3, ih.descend _ _ _ _ _ _ _ hr hv0 h3⟩ h
  descend root v segs st path r st' hr hv h := by
    cases segs with
    | nil => cases h; exact hv.2
    | cons key rest =>
      obtain ⟨es, ck, ok, st1, v', h1, h2, h⟩ := descend_cons_ok h
      have hn : WFN (.map es ck ok) :=
        ⟨(interpInv n).interpStrOrVl _ _ _ _ _ hr.1 hv.1 h1, ih.interpStrOrVl _ _ _ _ _ hr hv h1⟩
      exact ih.descend _ _ _ _ _ _ _ hr (wfn_lookup hn h2) h
  finalLoop root v st r st' hr hv h := by
    rw [finalLoop_succB] at h
    split at h
    · obtain ⟨v1, st1, h1, h⟩ := bind2_ok.1 h
      exact ih.finalLoop _ _ _ _ _ hr (interp_wfn hr hv.1 h1) h
    · cases h; exact hv.2
  interpStrOrVl root v st r st' hr hv h := by
    cases v with
    | str s => exact (interp_wfn hr hv.1 h).2
    | vl l =>
      rw [interpStrOrVl_vlB] at h
      obtain ⟨i, h1, h⟩ := bind1_ok.1 h
      obtain ⟨x, h2, h⟩ := bind1_ok.1 h
      cases h
      exact noNestPred.flatVl_pres i .null st r (ih.layersStr _ _ _ _ hr hv.1 hv.2.1 h1)
        trivial h2
    | null | bool _ | num _ | lit _ | map _ _ _ | seq _ => cases h; exact hv.2
  layersStr root l st r hr hl hnl h := by
    cases l with
    | nil => cases h; trivial
    | cons v vs =>
      obtain ⟨x, xs, rfl, hxs, hx⟩ := layersStr_cons_ok h
      refine ⟨?_, ih.layersStr _ _ _ _ hr hl.2 hnl.2 hxs⟩
      rcases hx with ⟨-, rfl⟩ | ⟨-, st', hx⟩
      · exact hnl.1
      · exact (interp_wfn hr hl.1 hx).2
  strLoop root v st r st' hr hv h := by
    rw [strLoop_succB] at h
    split at h
    · obtain ⟨v1, st1, h1, h⟩ := bind2_ok.1 h
      exact ih.strLoop _ _ _ _ _ hr (interp_wfn hr hv.1 h1) h
    · cases h; exact hv

theorem nnInv : ∀ n, NNInv n
  | 0 => by constructor <;> intros <;> contradiction
  | n+1 => nnInv_succ (nnInv n)

theorem interpVl_noNest : ∀ (n : Nat) (root : Mapping) (l : List Value) (r0 : Value) (st : RState)
    (r : Value), WFN root.toValue → WFL l → NoNest r0 → interpVl n root l r0 st = .ok r →
    NoNest r := by
  intro n
  induction n with
  | zero => intro _ _ _ _ _ _ _ _ h; cases h
  | succ n ih =>
    intro root l r0 st r hr hl h0 h
    cases l with
    | nil => cases h; exact h0
    | cons v vs =>
      rw [interpVl_consB] at h
      obtain ⟨x, st1, h1, h⟩ := bind2_ok.1 h
      obtain ⟨r1, h2, h⟩ := bind1_ok.1 h
      exact ih _ _ _ _ _ hr hl.2
        (noNestPred.mergeV_pres r0 x st1 r1 h0 (interp_wfn hr hl.1 h1).2 h2) h

theorem noNest_inner {v : Value} (hv : NoNest v) : ∀ l, v = .vl l → InnerLayersOK l := by
  rintro l rfl x hx l' rfl
  cases hv.2 _ hx

/-! ### YAML never produces nested layer lists -/

mutual
theorem ofYaml_noNest : ∀ (y : Yaml) (v : Value), Value.ofYaml y = .ok v → NoNest v := by
  intro y v h
  cases y with
  | seq l =>
    rw [ofYaml_seqB] at h
    obtain ⟨l', h1, h⟩ := bind1_ok.1 h
    cases h
    exact ofYamlL_noNest l l' h1
  | map es =>
    rw [ofYaml_mapB] at h
    obtain ⟨m, h1, h⟩ := bind1_ok.1 h
    cases h
    exact ofYamlEs_noNest es {} m trivial h1
  | tagged _ _ => cases h
  | _ => cases h; trivial
theorem ofYamlL_noNest : ∀ (l : List Yaml) (r : List Value), ofYamlL l = .ok r → NoNestL r := by
  intro l r h
  cases l with
  | nil => cases h; trivial
  | cons y ys =>
    rw [ofYamlL_consB] at h
    obtain ⟨v, h1, h⟩ := bind1_ok.1 h
    obtain ⟨vs, h2, h⟩ := bind1_ok.1 h
    cases h
    exact ⟨ofYaml_noNest y v h1, ofYamlL_noNest ys vs h2⟩
theorem ofYamlEs_noNest : ∀ (es : List (Yaml × Yaml)) (m m' : Mapping),
    NoNestEs m.es → ofYamlEs es m = .ok m' → NoNestEs m'.es := by
  intro es m m' hm h
  rcases es with _ | ⟨⟨k, v⟩, rest⟩
  · cases h; exact hm
  · rw [ofYamlEs_consB] at h
    obtain ⟨k', -, h⟩ := bind1_ok.1 h
    obtain ⟨v', h2, h⟩ := bind1_ok.1 h
    obtain ⟨m1, h3, h⟩ := bind1_ok.1 h
    exact ofYamlEs_noNest rest m1 m'
      (noNestPred.insertImpl_pres (m := m) hm (ofYaml_noNest v v' h2) h3) h
end

/-! ## The `unreachable!` of `Token::resolve` is unreachable -/

/-- The error is not the panic "We should have rendered Value::String and Value::ValueList
into some other variant" of `Token::resolve`. -/
def NotRP (e : Err) : Prop := e ≠ .panic .resolveNewvStrVl

theorem mergeEntries_error {ock ook : List Key} {es : List (Key × Value)} {e : Err} :
    ∀ {m : Mapping}, m.mergeEntries ock ook es = .error e → ∃ k, e = .constKey k := by
  induction es with
  | nil => intro m h; cases h
  | cons x es ih =>
    obtain ⟨k, v⟩ := x
    intro m h
    rw [mergeEntries_consB] at h
    rcases bind1_err.1 h with h1 | ⟨m1, -, h⟩
    · exact ⟨_, insertImpl_error h1⟩
    · exact ih h

theorem notRP_of_isHelper {e : Err} (h : e.isHelper = true) : NotRP e := by
  intro hs; subst hs; cases h

theorem flat_notRP (v : Value) (st : RState) (e : Err) (h : flat v st = .error e) : NotRP e :=
  notRP_of_isHelper (flat_helper v st e h)

theorem mergeV_notRP (self other : Value) (st : RState) (e : Err)
    (h : mergeV self other st = .error e) : NotRP e :=
  notRP_of_isHelper (mergeV_helper self other st e h)

theorem flatL_notRP : ∀ (l : List Value) (st : RState) (e : Err), flatL l st = .error e → NotRP e :=
  fun l st e h => notRP_of_isHelper (flatL_helper l st e h)

theorem flatEs_notRP : ∀ (es : List (Key × Value)) (ck ok : List Key) (st : RState) (acc : Mapping)
    (e : Err), flatEs es ck ok st acc = .error e → NotRP e :=
  fun es ck ok st acc e h => notRP_of_isHelper (flatEs_helper es ck ok st acc e h)

/-! ### JSON text -/

mutual
theorem jsonOf_fails : ∀ (v : Value) (e : Err), jsonOf v = .error e → e = .panic .jsonVl := by
  intro v e h
  cases v with
  | vl _ => cases h; rfl
  | seq l =>
    rw [jsonOf_seqB] at h
    rcases bind1_err.1 h with h1 | ⟨_, -, h⟩
    · exact jsonOfL_fails l e h1
    · cases h
  | map es _ _ =>
    rw [jsonOf_mapB] at h
    rcases bind1_err.1 h with h1 | ⟨_, -, h⟩
    · exact jsonOfEs_fails es [] e h1
    · cases h
  | bool b => cases b <;> cases h
  | _ => cases h
theorem jsonOfL_fails : ∀ (l : List Value) (e : Err), jsonOfL l = .error e → e = .panic .jsonVl := by
  intro l e h
  cases l with
  | nil => cases h
  | cons v vs =>
    rw [jsonOfL_consB] at h
    rcases bind1_err.1 h with h1 | ⟨x, -, h⟩
    · exact jsonOf_fails v e h1
    · rcases bind1_err.1 h with h2 | ⟨xs, -, h⟩
      · exact jsonOfL_fails vs e h2
      · cases h
theorem jsonOfEs_fails : ∀ (es : List (Key × Value)) (acc : List (Str × Str)) (e : Err),
    jsonOfEs es acc = .error e → e = .panic .jsonVl := by
  intro es acc e h
  rcases es with _ | ⟨⟨k, v⟩, rest⟩
  · cases h
  · rw [jsonOfEs_consB] at h
    rcases bind1_err.1 h with h1 | ⟨x, -, h⟩
    · exact jsonOf_fails v e h1
    · exact jsonOfEs_fails rest _ e h
end

theorem jsonOfL_notRP : ∀ (l : List Value) (e : Err), jsonOfL l = .error e → NotRP e := by
  intro l e h; rw [jsonOfL_fails l e h]; intro hs; cases hs

theorem jsonOfEs_notRP : ∀ (es : List (Key × Value)) (acc : List (Str × Str)) (e : Err),
    jsonOfEs es acc = .error e → NotRP e := by
  intro es acc e h; rw [jsonOfEs_fails es acc e h]; intro hs; cases hs

/-- Proved in `Lemmas/TextL` (`noRPInv`, from `noPanicInv`). -/
structure NoRPInv (n : Nat) : Prop where
  interp : ∀ (root : Mapping) (v : Value) (st : RState) (e : Err),
    WFN root.toValue → WFN v → interp n root v st = .error e → NotRP e
  interpL : ∀ (root : Mapping) (l : List Value) (idx : Nat) (st : RState) (e : Err),
    WFN root.toValue → WFL l → NoNestL l → interpL n root l idx st = .error e → NotRP e
  interpEs : ∀ (root : Mapping) (es : List (Key × Value)) (ck ok : List Key) (st : RState)
    (acc : Mapping) (e : Err), WFN root.toValue → WFEs es → NoNestEs es →
    interpEs n root es ck ok st acc = .error e → NotRP e
  interpVl : ∀ (root : Mapping) (l : List Value) (r0 : Value) (st : RState) (e : Err),
    WFN root.toValue → WFL l → NoNestL l → interpVl n root l r0 st = .error e → NotRP e
  tokRender : ∀ (root : Mapping) (t : Token) (st : RState) (e : Err),
    WFN root.toValue → tokRender n root t st = .error e → NotRP e
  tokResolve : ∀ (root : Mapping) (t : Token) (st : RState) (e : Err),
    WFN root.toValue → tokResolve n root t st = .error e → NotRP e
  descend : ∀ (root : Mapping) (v : Value) (segs : List Str) (st : RState) (path : Str) (e : Err),
    WFN root.toValue → WFN v → descend n root v segs st path = .error e → NotRP e
  finalLoop : ∀ (root : Mapping) (v : Value) (st : RState) (e : Err),
    WFN root.toValue → WFN v → finalLoop n root v st = .error e → NotRP e
  interpStrOrVl : ∀ (root : Mapping) (v : Value) (st : RState) (e : Err),
    WFN root.toValue → WFN v → interpStrOrVl n root v st = .error e → NotRP e
  layersStr : ∀ (root : Mapping) (l : List Value) (st : RState) (e : Err),
    WFN root.toValue → WFL l → NoNestL l → layersStr n root l st = .error e → NotRP e
  slice : ∀ (root : Mapping) (ts : List Token) (st : RState) (e : Err),
    WFN root.toValue → slice n root ts st = .error e → NotRP e
  strLoop : ∀ (root : Mapping) (v : Value) (st : RState) (e : Err),
    WFN root.toValue → WFN v → strLoop n root v st = .error e → NotRP e
  sliceFinish : ∀ (root : Mapping) (v : Value) (st : RState) (e : Err),
    WFN root.toValue → WFN v → sliceFinish n root v st = .error e → NotRP e

end Reclass
