/-
  "Look up, then render" = "render, then look up" for a reference path through layer lists and
  string references (for `Props/C03b`).  `Token::resolve` merges the *raw* layers of a layer
  list on the way (only `String` layers are interpolated first) and looks the next segment up
  in that merge; rendering interpolates *every* layer, merges, and interpolates the merge
  again.  The two merges are run in lock-step.  `Layered` is needed: `Props/C03b` has a root
  where the two routes disagree without it.
-/
import Reclass.Props.C03
import Reclass.Props.C04
import Reclass.Props.C10
namespace Reclass
namespace Commute

open Refs

/-! ## Vocabulary -/

mutual
/-- No layer list at any position (unparsed strings are allowed). -/
def VlFree : Value → Prop
  | .vl _ => False
  | .map es _ _ => VlFreeEs es
  | .seq l => VlFreeL l
  | _ => True
def VlFreeL : List Value → Prop
  | [] => True
  | v :: vs => VlFree v ∧ VlFreeL vs
def VlFreeEs : List (Key × Value) → Prop
  | [] => True
  | (_, v) :: es => VlFree v ∧ VlFreeEs es
end

/-- A value as `Mapping::merge` of YAML-decoded class parameters leaves it: free of layer lists,
or a layer list whose layers are free of layer lists. -/
def Layered : Value → Prop
  | .vl l => VlFreeL l
  | v => VlFree v

theorem layersOf_of_not_vl {v : Value} (h : v.isVl = false) : C10.layersOf v = [v] := by
  cases v <;> simp_all [C10.layersOf, Value.isVl]

theorem vlFreeL_append {a b : List Value} : VlFreeL (a ++ b) ↔ VlFreeL a ∧ VlFreeL b :=
  l_append trivial fun _ _ => Iff.rfl

theorem vlFree_isVl {v : Value} (h : VlFree v) : v.isVl = false := by
  cases v <;> simp_all [VlFree, Value.isVl]

theorem layered_iff (v : Value) : Layered v ↔ VlFreeL (C10.layersOf v) := by
  cases v <;> simp [Layered, C10.layersOf, VlFreeL]

theorem layered_of_vlFree {v : Value} (h : VlFree v) : Layered v := by
  cases v <;> simp_all [Layered, VlFree]

mutual
theorem closed_vlFree : ∀ (v : Value), Closed v → VlFree v
  | .vl _, h => h.elim
  | .str _, h => h.elim
  | .null, _ | .bool _, _ | .num _, _ | .lit _, _ => trivial
  | .seq l, h => closedL_vlFree l h
  | .map es _ _, h => closedEs_vlFree es h
theorem closedL_vlFree : ∀ (l : List Value), ClosedL l → VlFreeL l
  | [], _ => trivial
  | v :: vs, h => ⟨closed_vlFree v h.1, closedL_vlFree vs h.2⟩
theorem closedEs_vlFree : ∀ (es : List (Key × Value)), ClosedEs es → VlFreeEs es
  | [], _ => trivial
  | (_, v) :: es, h => ⟨closed_vlFree v h.1, closedEs_vlFree es h.2⟩
end

theorem lookup_vlFree {k : Key} {es : List (Key × Value)} {v : Value} (h : VlFreeEs es)
    (hl : lookup k es = some v) : VlFree v :=
  es_lookup (Q := fun _ v => VlFree v) (fun _ _ _ => Iff.rfl) h hl

theorem lookup_closed {k : Key} {es : List (Key × Value)} {v : Value} (h : ClosedEs es)
    (hl : lookup k es = some v) : Closed v :=
  es_lookup (Q := fun _ v => Closed v) (fun _ _ _ => Iff.rfl) h hl

theorem lookup_canon {k : Key} {es : List (Key × Value)} {v : Value} (h : CanonEs es)
    (hl : lookup k es = some v) : Canon v :=
  es_lookup (Q := fun _ v => Canon v) (fun _ _ _ => Iff.rfl) h hl

/-! ## Pointwise relations on lists -/

def RelL (P : Value → Value → Prop) : List Value → List Value → Prop
  | [], [] => True
  | a :: as, b :: bs => P a b ∧ RelL P as bs
  | _, _ => False

def RelEs (P : Key → Value → Value → Prop) : List (Key × Value) → List (Key × Value) → Prop
  | [], [] => True
  | (k, a) :: as, (k', b) :: bs => k = k' ∧ P k a b ∧ RelEs P as bs
  | _, _ => False

theorem relL_cons {P : Value → Value → Prop} {a b : Value} {as bs : List Value} :
    RelL P (a :: as) (b :: bs) ↔ P a b ∧ RelL P as bs := Iff.rfl

theorem relEs_cons {P : Key → Value → Value → Prop} {k k' : Key} {a b : Value}
    {as bs : List (Key × Value)} :
    RelEs P ((k, a) :: as) ((k', b) :: bs) ↔ k = k' ∧ P k a b ∧ RelEs P as bs := Iff.rfl

theorem RelL.induction {P : Value → Value → Prop}
    {motive : (as bs : List Value) → RelL P as bs → Prop} (nil : motive [] [] trivial)
    (cons : ∀ {a b : Value} {as bs : List Value} (hab : P a b) (h : RelL P as bs),
      motive as bs h → motive (a :: as) (b :: bs) (relL_cons.2 ⟨hab, h⟩)) :
    ∀ {as bs : List Value} (h : RelL P as bs), motive as bs h
  | [], [], _ => nil
  | [], _ :: _, h => h.elim
  | _ :: _, [], h => h.elim
  | _ :: _, _ :: _, h => cons (relL_cons.1 h).1 (relL_cons.1 h).2 (RelL.induction nil cons _)

theorem RelEs.induction {P : Key → Value → Value → Prop}
    {motive : (as bs : List (Key × Value)) → RelEs P as bs → Prop} (nil : motive [] [] trivial)
    (cons : ∀ {k : Key} {a b : Value} {as bs : List (Key × Value)} (hab : P k a b)
      (h : RelEs P as bs), motive as bs h →
      motive ((k, a) :: as) ((k, b) :: bs) (relEs_cons.2 ⟨rfl, hab, h⟩)) :
    ∀ {as bs : List (Key × Value)} (h : RelEs P as bs), motive as bs h
  | [], [], _ => nil
  | [], _ :: _, h => h.elim
  | _ :: _, [], h => h.elim
  | (k, a) :: as, (k', b) :: bs, h => by
    obtain ⟨rfl, hab, h⟩ := relEs_cons.1 h
    exact cons hab h (RelEs.induction nil cons h)

theorem relL_append {P : Value → Value → Prop} {a b a' b' : List Value} (h : RelL P a b)
    (h' : RelL P a' b') : RelL P (a ++ a') (b ++ b') := by
  induction h using RelL.induction with
  | nil => exact h'
  | cons hab _ ih => exact relL_cons.2 ⟨hab, ih⟩

theorem relL_mono {P Q : Value → Value → Prop} (hPQ : ∀ a b, P a b → Q a b) :
    ∀ {a b : List Value}, RelL P a b → RelL Q a b := by
  intro a b h
  induction h using RelL.induction with
  | nil => trivial
  | cons hab _ ih => exact relL_cons.2 ⟨hPQ _ _ hab, ih⟩

theorem relEs_keys {P : Key → Value → Value → Prop} {a b : List (Key × Value)} (h : RelEs P a b) :
    keys a = keys b := by
  induction h using RelEs.induction with
  | nil => rfl
  | cons _ _ ih => exact congrArg (_ :: ·) ih

theorem relEs_lookup_none {P : Key → Value → Value → Prop} {a b : List (Key × Value)}
    (h : RelEs P a b) (k : Key) : lookup k a = none ↔ lookup k b = none := by
  rw [lookup_none_iff, lookup_none_iff, relEs_keys h]

theorem relEs_lookup {P : Key → Value → Value → Prop} {a b : List (Key × Value)} {k : Key}
    {x : Value} (h : RelEs P a b) (hl : lookup k a = some x) :
    ∃ y, lookup k b = some y ∧ P k x y := by
  induction h using RelEs.induction with
  | nil => cases hl
  | @cons k1 x1 y1 _ _ hp _ ih =>
    rw [lookup_cons] at hl ⊢
    by_cases hk : k1 = k
    · rw [if_pos hk] at hl ⊢
      cases hl; exact ⟨y1, rfl, hk ▸ hp⟩
    · rw [if_neg hk] at hl ⊢
      exact ih hl

theorem relEs_replaceVal {P : Key → Value → Value → Prop} {k : Key} {v w : Value} (hvw : P k v w)
    {a b : List (Key × Value)} (h : RelEs P a b) :
    RelEs P (replaceVal k v a) (replaceVal k w b) := by
  induction h using RelEs.induction with
  | nil => trivial
  | @cons k1 _ _ _ _ hp hr ih =>
    by_cases hk : k1 = k
    · simp only [replaceVal, hk, if_true]
      exact relEs_cons.2 ⟨rfl, hvw, hr⟩
    · simp only [replaceVal, hk, if_false]
      exact relEs_cons.2 ⟨rfl, hp, ih⟩

theorem relEs_append {P : Key → Value → Value → Prop} {a b a' b' : List (Key × Value)}
    (h : RelEs P a b) (h' : RelEs P a' b') : RelEs P (a ++ a') (b ++ b') := by
  induction h using RelEs.induction with
  | nil => exact h'
  | cons hab _ ih => exact relEs_cons.2 ⟨rfl, hab, ih⟩

theorem relEs_mono {P Q : Key → Value → Value → Prop} (hPQ : ∀ k a b, P k a b → Q k a b) :
    ∀ {a b : List (Key × Value)}, RelEs P a b → RelEs Q a b := by
  intro a b h
  induction h using RelEs.induction with
  | nil => trivial
  | cons hab _ ih => exact relEs_cons.2 ⟨rfl, hPQ _ _ _ hab, ih⟩

/-! ## `Mapping::insert_impl` / `Mapping::merge` in lock-step -/

theorem insertImpl_clean_some (m : Mapping) {k : Key} {old : Value} (v : Value) (fc fo : Bool)
    (hk : CleanKey k) (hl : lookup k m.es = some old) :
    m.insertImpl k v fc fo =
      if k ∈ m.ck then .error (.constKey k)
      else .ok ⟨if fo then replaceVal k v m.es else replaceVal k (combine old v) m.es,
                if fc then setInsert k m.ck else m.ck, m.ok⟩ := by
  unfold Mapping.insertImpl
  rw [show k.stripPrefix = (k, none) from hk]
  simp [hl]

def CombineClosed (P : Key → Value → Value → Prop) : Prop :=
  ∀ k a b a' b', P k a b → P k a' b' → P k (combine a a') (combine b b')

/-- The constant flags may differ: they only decide whether the insertion fails. -/
theorem insertImpl_rel {P : Key → Value → Value → Prop} (hP : CombineClosed P)
    {M r M' r' : Mapping} {k : Key} {w w' : Value} {fcA fcB fo : Bool} (hk : CleanKey k)
    (hrel : RelEs P M.es r.es) (hw : P k w w')
    (hA : M.insertImpl k w fcA fo = .ok M') (hB : r.insertImpl k w' fcB fo = .ok r') :
    RelEs P M'.es r'.es := by
  cases hl : lookup k M.es with
  | none =>
    have hl' := (relEs_lookup_none hrel k).1 hl
    rw [insertImpl_fresh_eq M w _ _ hk (lookup_none_iff.1 hl)] at hA
    rw [insertImpl_fresh_eq r w' _ _ hk (lookup_none_iff.1 hl')] at hB
    simp only [Except.ok.injEq] at hA hB
    subst hA; subst hB
    exact relEs_append hrel (relEs_cons.2 ⟨rfl, hw, trivial⟩)
  | some old =>
    obtain ⟨old', hl', ho⟩ := relEs_lookup hrel hl
    rw [insertImpl_clean_some M w _ _ hk hl] at hA
    rw [insertImpl_clean_some r w' _ _ hk hl'] at hB
    by_cases h1 : k ∈ M.ck
    · simp [h1] at hA
    by_cases h2 : k ∈ r.ck
    · simp [h2] at hB
    simp only [h1, h2, if_false, Except.ok.injEq] at hA hB
    subst hA; subst hB
    cases fo with
    | true => exact relEs_replaceVal hw hrel
    | false => exact relEs_replaceVal (hP _ _ _ _ _ ho hw) hrel

theorem mergeEntries_cons_ok {m m' : Mapping} {ock ook : List Key} {k : Key} {v : Value}
    {rest : List (Key × Value)} :
    m.mergeEntries ock ook ((k, v) :: rest) = .ok m' ↔
      ∃ m1, m.insertImpl k v (decide (k ∈ ock)) (decide (k ∈ ook)) = .ok m1 ∧
        m1.mergeEntries ock ook rest = .ok m' := by
  rw [mergeEntries_consB, bind1_ok]

theorem mergeEntries_rel {P : Key → Value → Value → Prop} (hP : CombineClosed P)
    {ockA ookA ockB ookB : List Key} {es es' : List (Key × Value)} (h : RelEs P es es') :
    ∀ {M r M' r' : Mapping}, WFEs es → RelEs P M.es r.es →
    (∀ k ∈ keys es, k ∈ ookA ↔ k ∈ ookB) →
    M.mergeEntries ockA ookA es = .ok M' → r.mergeEntries ockB ookB es' = .ok r' →
    RelEs P M'.es r'.es := by
  induction h using RelEs.induction with
  | nil => intro _ _ _ _ _ hrel _ hA hB; cases hA; cases hB; exact hrel
  | @cons k _ _ _ _ hw _ ih =>
    intro M r M' r' hwf hrel hfo hA hB
    obtain ⟨M1, h1, hA⟩ := mergeEntries_cons_ok.1 hA
    obtain ⟨r1, h2, hB⟩ := mergeEntries_cons_ok.1 hB
    rw [← decide_eq_decide.2 (hfo k (by simp [keys]))] at h2
    exact ih hwf.2.2 (insertImpl_rel hP hwf.1 hrel hw h1 h2)
      (fun k' hk' => hfo k' (List.mem_cons_of_mem _ hk')) hA hB

/-! ## `Value::merge` and the layer fold in lock-step -/

def tag : Value → Nat
  | .null => 0
  | .map .. => 1
  | _ => 2

inductive AccRel (P : Key → Value → Value → Prop) : Value → Value → Prop
  | null : AccRel P .null .null
  | map {es es' : List (Key × Value)} {ck ok ck' ok' : List Key} :
      RelEs P es es' → AccRel P (.map es ck ok) (.map es' ck' ok')
  | other {a b : Value} : tag a = 2 → tag b = 2 → AccRel P a b

inductive LayerRel (P : Key → Value → Value → Prop) : Value → Value → Prop
  | null : LayerRel P .null .null
  | map {es es' : List (Key × Value)} {ck ok ck' ok' : List Key} :
      RelEs P es es' → WFEs es → (∀ k ∈ keys es, k ∈ ok ↔ k ∈ ok') →
      LayerRel P (.map es ck ok) (.map es' ck' ok')
  | other {a b : Value} : tag a = 2 → tag b = 2 → a.isVl = false → b.isVl = false → LayerRel P a b

theorem mergeV_tag2 {b o r : Value} {st : RState} (ht : tag o = 2) (hv : o.isVl = false)
    (h : mergeV b o st = .ok r) : tag r = 2 := by
  have hn : o.isNull = false := by cases o <;> first | rfl | cases ht
  rw [mergeV_of_not_vl hn hv] at h
  rcases mergeNonVl_ok h with ⟨_, rfl⟩ | ⟨_, _, _, _, _, _, _, _, rfl, _⟩ | ⟨_, _, _, _, rfl⟩ |
    ⟨_, _, _, rfl⟩
  · exact ht
  · cases ht
  · rfl
  · exact ht

theorem mergeV_map_map_ok {es es' : List (Key × Value)} {ck ok ck' ok' : List Key} {st : RState}
    {r : Value} : mergeV (.map es ck ok) (.map es' ck' ok') st = .ok r ↔
      ∃ m, Mapping.merge ⟨es, ck, ok⟩ ⟨es', ck', ok'⟩ = .ok m ∧ r = m.toValue := by
  rw [mergeV_of_not_vl rfl rfl]
  simp only [mergeNonVl]
  cases Mapping.merge ⟨es, ck, ok⟩ ⟨es', ck', ok'⟩ <;> simp [eq_comm]

theorem mergeV_rel {P : Key → Value → Value → Prop} (hP : CombineClosed P)
    {bA bB iv xv bA' bB' : Value} {stA stB : RState}
    (hacc : AccRel P bA bB) (hl : LayerRel P iv xv)
    (hA : mergeV bA iv stA = .ok bA') (hB : mergeV bB xv stB = .ok bB') : AccRel P bA' bB' := by
  cases hl with
  | null =>
    simp only [mergeV, Except.ok.injEq] at hA hB
    subst hA; subst hB; exact .null
  | other ta tb va vb => exact .other (mergeV_tag2 ta va hA) (mergeV_tag2 tb vb hB)
  | @map es es' ck ok ck' ok' hes hwf hfo =>
    cases hacc with
    | null =>
      simp only [mergeV, mergeNonVl, Except.ok.injEq] at hA hB
      subst hA; subst hB; exact .map hes
    | @map mes res mck mok rck rok hrel =>
      obtain ⟨M1, h1, rfl⟩ := mergeV_map_map_ok.1 hA
      obtain ⟨r1, h2, rfl⟩ := mergeV_map_map_ok.1 hB
      exact .map (mergeEntries_rel hP hes hwf hrel hfo h1 h2)
    | other ta tb =>
      exfalso
      cases bA <;> simp [tag, mergeV, mergeNonVl, Value.isMap] at ta hA

theorem flatVl_rel {P : Key → Value → Value → Prop} (hP : CombineClosed P) {stA stB : RState}
    {is xs : List Value} (h : RelL (LayerRel P) is xs) :
    ∀ {bA bB MA MB : Value}, AccRel P bA bB →
    flatVl is bA stA = .ok MA → flatVl xs bB stB = .ok MB → AccRel P MA MB := by
  induction h using RelL.induction with
  | nil => intro _ _ _ _ hacc hA hB; rw [flatVl_nil] at hA hB; cases hA; cases hB; exact hacc
  | cons hix _ ih =>
    intro bA bB MA MB hacc hA hB
    obtain ⟨bA', h1, hA⟩ := bind1_ok.1 (flatVl_consB .. ▸ hA)
    obtain ⟨bB', h2, hB⟩ := bind1_ok.1 (flatVl_consB .. ▸ hB)
    exact ih (mergeV_rel hP hacc hix h1 h2) hA hB

/-! ## "interpolates to" -/

def IR (root : Mapping) (s : RState) (a b : Value) : Prop :=
  ∃ n s', interp n root a s = .ok (b, s')

/-- Closed, canonical and well-formed: the shape of everything `interpolate` returns. -/
def CCW (v : Value) : Prop := Closed v ∧ Canon v ∧ WF v

theorem IR.det {root : Mapping} {s s' : RState} {a b b' : Value} (h : IR root s a b)
    (h' : IR root s' a b') : b = b' := by
  obtain ⟨n, t, hn⟩ := h
  obtain ⟨m, t', hm⟩ := h'
  exact interp_indep hn hm

theorem IR.ccw {root : Mapping} {s : RState} {a b : Value} (hr : WF root.toValue) (hw : WF a)
    (h : IR root s a b) : CCW b := by
  obtain ⟨n, t, hn⟩ := h
  -- `interp_canon_result` lists `Canon` before `Closed`
  obtain ⟨h1, h2, h3⟩ := C04.interp_canon_result hr hw hn
  exact ⟨h2, h1, h3⟩

theorem IR.notVl {root : Mapping} {s : RState} {a b : Value} (h : IR root s a b) :
    b.isVl = false := by
  obtain ⟨n, t, hn⟩ := h
  cases b with
  | vl l => exact absurd rfl ((C07.interp_never_str_vl hn).2 l)
  | _ => rfl

theorem ir_self {b : Value} (h : CCW b) (root : Mapping) (s : RState) : IR root s b b :=
  ⟨size b, s, C04.interp_canonical_exact h.1 h.2.2 h.2.1 (Nat.le_refl _)⟩

theorem ir_ccw_eq {root : Mapping} {s : RState} {b y : Value} (h : CCW b) (h' : IR root s b y) :
    y = b := h'.det (ir_self h root s)

theorem ccw_lookup {es : List (Key × Value)} {ck ok : List Key} {k : Key} {v : Value}
    (h : CCW (.map es ck ok)) (hl : lookup k es = some v) : CCW v := by
  obtain ⟨h1, h2, h3⟩ := h
  exact ⟨lookup_closed h1 hl, lookup_canon h2.1 hl, lookup_some_wf h3.1 hl⟩

theorem ccw_notVl {v : Value} (h : CCW v) : v.isVl = false := vlFree_isVl (closed_vlFree v h.1)

/-! ## The two layer loops, pointwise -/

/-- What `layersStr` does to one layer. -/
def StrLayer (root : Mapping) (st : RState) (v iv : Value) : Prop :=
  (v.isStr = true → IR root st v iv) ∧ (v.isStr = false → iv = v)

theorem layersStr_spec {root : Mapping} {st : RState} :
    ∀ (l : List Value) (n : Nat) (i : List Value), layersStr n root l st = .ok i →
    RelL (StrLayer root st) l i
  | _, 0, _, h => by cases h
  | [], _ + 1, _, h => by cases h; trivial
  | v :: vs, n + 1, i, h => by
    obtain ⟨x, xs, rfl, h2, hx⟩ := layersStr_cons_ok h
    refine relL_cons.2 ⟨?_, layersStr_spec vs n xs h2⟩
    rcases hx with ⟨hs, rfl⟩ | ⟨hs, s1, h1⟩
    · exact ⟨fun hf => absurd hf (by simp [hs]), fun _ => rfl⟩
    · exact ⟨fun _ => ⟨n, s1, h1⟩, fun hf => absurd hs (by simp [hf])⟩

theorem interpVl_spec {root : Mapping} {st : RState} :
    ∀ (l : List Value) (n : Nat) (r0 r : Value), interpVl n root l r0 st = .ok r →
    ∃ xs, RelL (IR root st) l xs ∧ flatVl xs r0 st = .ok r
  | _, 0, _, _, h => by cases h
  | [], _ + 1, r0, r, h => by cases h; exact ⟨[], trivial, flatVl_nil r0 st⟩
  | v :: vs, n + 1, r0, r, h => by
    simp only [interpVl_consB, bind1_ok, bind2_ok] at h
    obtain ⟨x, s1, h1, r1, h2, h⟩ := h
    obtain ⟨xs, hxs, hf⟩ := interpVl_spec vs n r1 r h
    refine ⟨x :: xs, relL_cons.2 ⟨⟨n, s1, h1⟩, hxs⟩, ?_⟩
    rw [flatVl_consB, mergeV_ok_state r0 x s1 st r1 h2]
    exact hf

theorem interpVl_build {root : Mapping} {st : RState} {l xs : List Value}
    (h : RelL (IR root st) l xs) :
    ∀ {r0 r : Value}, flatVl xs r0 st = .ok r → ∃ N, interpVl N root l r0 st = .ok r := by
  induction h using RelL.induction with
  | nil => intro r0 r hf; rw [flatVl_nil] at hf; cases hf; exact ⟨1, rfl⟩
  | @cons v x vs _ hvx _ ih =>
    intro r0 r hf
    obtain ⟨n, s1, h1⟩ := hvx
    obtain ⟨r1, h2, hf⟩ := bind1_ok.1 (flatVl_consB .. ▸ hf)
    obtain ⟨N, hN⟩ := ih hf
    refine ⟨max n N + 1, ?_⟩
    rw [interpVl_consB, interp_fuel_mono_le (Nat.le_max_left n N) root v st h1 (by simp)]
    exact bind1_ok.2 ⟨r1, mergeV_ok_state r0 x st s1 r1 h2,
      interpVl_fuel_mono_le (Nat.le_max_right n N) root vs r1 st hN (by simp)⟩

theorem interpEs_rel {root : Mapping} {ck ok : List Key} {st : RState} (hr : WF root.toValue)
    (es : List (Key × Value)) : ∀ (n : Nat) (acc m : Mapping),
    WFEs es → (keys acc.es ++ keys es).Nodup → interpEs n root es ck ok st acc = .ok m →
    ∃ xs, m.es = acc.es ++ xs ∧ RelEs (fun k a b => IR root (st.pushMappingKey k) a b) es xs := by
  induction es with
  | nil =>
    intro n acc m _ _ h
    cases n with
    | zero => cases h
    | succ n => cases h; exact ⟨[], (List.append_nil _).symm, trivial⟩
  | cons e rest ih =>
    obtain ⟨k0, v0⟩ := e
    intro n acc m hes hnd h
    cases n with
    | zero => cases h
    | succ n =>
      obtain ⟨v1, s1, h1, h⟩ := bind2_ok.1 (interpEs_consB .. ▸ h)
      obtain ⟨v2, h2, h⟩ := bind1_ok.1 h
      obtain ⟨acc', h3, h⟩ := bind1_ok.1 h
      obtain ⟨hk1, hc1, hw1⟩ := C04.interp_canon_result hr hes.2.1 h1
      cases (flat_canon v1 s1 hc1 hw1 hk1).symm.trans h2
      obtain ⟨hins, -, hnd'⟩ := insertImpl_step v1 (decide (k0 ∈ ck)) (decide (k0 ∈ ok)) hes.1 hnd
      cases hins.symm.trans h3
      obtain ⟨xs, hxs, hrel⟩ := ih n _ m hes.2.2 hnd' h
      exact ⟨(k0, v1) :: xs, by rw [hxs, List.append_assoc]; rfl, relEs_cons.2 ⟨rfl, ⟨n, s1, h1⟩, hrel⟩⟩

/-! ## The per-key relation carried through the merge -/

/-- The stored value `a` (raw route) and the stored value `b` (rendered route) under key `k`:
the layers of `a` interpolate one by one — from `s0` with `k` pushed — to the layers of `b`, and
the layers of `a` are free of layer lists. -/
def LR (root : Mapping) (s0 : RState) (k : Key) (a b : Value) : Prop :=
  RelL (IR root (s0.pushMappingKey k)) (C10.layersOf a) (C10.layersOf b) ∧
    VlFreeL (C10.layersOf a)

theorem lr_combineClosed (root : Mapping) (s0 : RState) : CombineClosed (LR root s0) := by
  intro k a b a' b' h h'
  simp only [LR, C10.combine_layers]
  exact ⟨relL_append h.1 h'.1, vlFreeL_append.2 ⟨h.2, h'.2⟩⟩

theorem lr_single {root : Mapping} {s0 : RState} {k : Key} {a b : Value}
    (h : IR root (s0.pushMappingKey k) a b) (hf : VlFree a) : LR root s0 k a b := by
  rw [LR, layersOf_of_not_vl (vlFree_isVl hf), layersOf_of_not_vl h.notVl]
  exact ⟨⟨h, trivial⟩, hf, trivial⟩

theorem relEs_lr {root : Mapping} {s0 : RState} {es xs : List (Key × Value)}
    (h : RelEs (fun k a b => IR root (s0.pushMappingKey k) a b) es xs) :
    VlFreeEs es → RelEs (LR root s0) es xs := by
  induction h using RelEs.induction with
  | nil => exact fun _ => trivial
  | cons hab _ ih =>
    intro hf
    exact relEs_cons.2 ⟨rfl, lr_single hab hf.1, ih hf.2⟩

theorem relEs_lr_ccw {root : Mapping} {s0 : RState} : ∀ (es : List (Key × Value)),
    ClosedEs es → CanonEs es → WFEs es → RelEs (LR root s0) es es
  | [], _, _, _ => trivial
  | (_, v) :: es, hc, hk, hw =>
    ⟨rfl, lr_single (ir_self ⟨hc.1, hk.1, hw.2.1⟩ _ _) (closed_vlFree v hc.1),
      relEs_lr_ccw es hc.2 hk.2 hw.2.2⟩

theorem layerRel_ccw {root : Mapping} {s0 : RState} {y : Value} (h : CCW y) :
    LayerRel (LR root s0) y y := by
  obtain ⟨h1, h2, h3⟩ := h
  cases y with
  | null => exact .null
  | map es ck ok =>
    exact .map (relEs_lr_ccw es h1 h2.1 h3.1) h3.1 (fun _ _ => Iff.rfl)
  | str s => exact h1.elim
  | vl l => exact h1.elim
  | _ => exact .other rfl rfl rfl rfl

theorem layerRel_map {root : Mapping} {s0 : RState} {es : List (Key × Value)} {ck ok : List Key}
    {x : Value} (hr : WF root.toValue) (hw : WF (.map es ck ok)) (hf : VlFree (.map es ck ok))
    (hx : IR root s0 (.map es ck ok) x) : LayerRel (LR root s0) (.map es ck ok) x := by
  obtain ⟨_, s', hn⟩ := hx
  obtain ⟨n, m, rfl, h1, rfl, _⟩ := interp_map_ok hn
  obtain ⟨xs, hxs, hrel⟩ := interpEs_rel hr es n {} m hw.1 hw.2 h1
  obtain ⟨_, _, hok⟩ := interpEs_shape es n {} m hw.1 hw.2 h1
  refine .map (by rw [hxs]; exact relEs_lr hrel hf) hw.1 fun k hk => ?_
  rw [hok k]
  simp [hk]

theorem layer_rel {root : Mapping} {stA s0 : RState} {v iv x : Value} (hr : WF root.toValue)
    (hw : WF v) (hf : VlFree v) (hi : StrLayer root stA v iv) (hx : IR root s0 v x) :
    LayerRel (LR root s0) iv x := by
  cases v with
  | str s =>
    cases (hi.1 rfl).det hx
    exact layerRel_ccw (hx.ccw hr hw)
  | map es ck ok =>
    cases hi.2 rfl
    exact layerRel_map hr hw hf hx
  | vl l => simp [VlFree] at hf
  | seq l =>
    cases hi.2 rfl
    obtain ⟨n, s', hn⟩ := hx
    cases n with
    | zero => cases hn
    | succ n =>
      obtain ⟨l', _, hn⟩ := bind1_ok.1 (interp_seqB .. ▸ hn)
      cases hn
      exact .other rfl rfl rfl rfl
  | null =>
    cases hi.2 rfl
    cases ir_ccw_eq ⟨by simp [Closed], by simp [Canon], by simp [WF]⟩ hx
    exact .null
  | _ =>
    cases hi.2 rfl
    cases ir_ccw_eq ⟨by simp [Closed], by simp [Canon], by simp [WF]⟩ hx
    exact .other rfl rfl rfl rfl

theorem relL_cons_left {P : Value → Value → Prop} {a : Value} {as bs : List Value}
    (h : RelL P (a :: as) bs) : ∃ b bs', bs = b :: bs' ∧ P a b ∧ RelL P as bs' := by
  cases bs with
  | nil => exact h.elim
  | cons b bs' => exact ⟨b, bs', rfl, h⟩

theorem layers_rel {root : Mapping} {stA s0 : RState} (hr : WF root.toValue) {l i : List Value}
    (hi : RelL (StrLayer root stA) l i) :
    ∀ {xs : List Value}, WFL l → VlFreeL l → RelL (IR root s0) l xs →
    RelL (LayerRel (LR root s0)) i xs := by
  induction hi using RelL.induction with
  | nil => intro xs _ _ hx; cases xs <;> exact hx
  | cons hvi _ ih =>
    intro xs hw hf hx
    obtain ⟨x, xs, rfl, hx, hxs⟩ := relL_cons_left hx
    exact relL_cons.2 ⟨layer_rel hr hw.1 hf.1 hvi hx, ih hw.2 hf.2 hxs⟩

/-! ## Rendering a value through its layers -/

/-- The layers of `a` interpolate (from `s`) to `ys`, these fold to `z`, and `z` interpolates
to `x`: how `interpolate` treats a layer list — and, trivially, any other value. -/
def RL (root : Mapping) (s : RState) (a x : Value) : Prop :=
  ∃ ys z, RelL (IR root s) (C10.layersOf a) ys ∧ flatVl ys .null s = .ok z ∧ IR root s z x

theorem mergeV_null_left {x : Value} (h : x.isVl = false) (st : RState) :
    mergeV .null x st = .ok x := by
  cases x <;> simp_all [mergeV, mergeNonVl, Value.isVl]

theorem rl_of_ir_single {root : Mapping} {s : RState} {a x : Value} (hr : WF root.toValue)
    (hw : WF a) (hv : a.isVl = false) (h : IR root s a x) : RL root s a x := by
  refine ⟨[x], x, ?_, ?_, ir_self (h.ccw hr hw) _ _⟩
  · rw [layersOf_of_not_vl hv]; exact ⟨h, trivial⟩
  · simp [flatVl, mergeV_null_left h.notVl]

theorem rl_of_ir {root : Mapping} {s : RState} {a x : Value} (hr : WF root.toValue) (hw : WF a)
    (h : IR root s a x) : RL root s a x := by
  cases a with
  | vl l =>
    obtain ⟨_, s', hn⟩ := h
    obtain ⟨n, z, rfl, h1, hn⟩ := interp_vl_ok hn
    obtain ⟨ys, hys, hf⟩ := interpVl_spec l n .null z h1
    exact ⟨ys, z, hys, hf, n, s', hn⟩
  | _ => exact rl_of_ir_single hr hw rfl h

theorem ir_of_rl_single {root : Mapping} {s : RState} {a x : Value} (hr : WF root.toValue)
    (hw : WF a) (hv : a.isVl = false) (h : RL root s a x) : IR root s a x := by
  obtain ⟨ys, z, hys, hf, hz⟩ := h
  rw [layersOf_of_not_vl hv] at hys
  obtain ⟨y, ys, rfl, hay, hnil⟩ := relL_cons_left hys
  cases ys with
  | cons _ _ => exact hnil.elim
  | nil =>
    simp only [flatVl, mergeV_null_left hay.notVl, Except.ok.injEq] at hf
    subst hf
    cases ir_ccw_eq (hay.ccw hr hw) hz
    exact hay

theorem ir_of_rl {root : Mapping} {s : RState} {a x : Value} (hr : WF root.toValue) (hw : WF a)
    (h : RL root s a x) : IR root s a x := by
  cases a with
  | vl l =>
    obtain ⟨ys, z, hys, hf, m, s', hm⟩ := h
    obtain ⟨N, hN⟩ := interpVl_build hys hf
    refine ⟨max N m + 1, s', ?_⟩
    rw [interp_vl, interpVl_fuel_mono_le (Nat.le_max_left N m) root l .null s hN (by simp)]
    exact interp_fuel_mono_le (Nat.le_max_right N m) root z s hm (by simp)
  | _ => exact ir_of_rl_single hr hw rfl h

theorem relL_trans_ccw {root : Mapping} {s : RState} (hr : WF root.toValue) {as bs : List Value}
    (h1 : RelL (IR root s) as bs) :
    ∀ {ys : List Value}, WFL as → RelL (IR root s) bs ys → RelL (IR root s) as ys := by
  induction h1 using RelL.induction with
  | nil => exact fun _ h2 => h2
  | cons hab _ ih =>
    intro ys hw h2
    obtain ⟨y, ys, rfl, hby, hys⟩ := relL_cons_left h2
    cases ir_ccw_eq (hab.ccw hr hw.1) hby
    exact relL_cons.2 ⟨hab, ih hw.2 hys⟩

theorem wfL_layersOf {a : Value} (h : WF a) : WFL (C10.layersOf a) := by
  cases a <;> simp_all [C10.layersOf, WF, WFL]

theorem ir_of_layers {root : Mapping} {s : RState} {a b x : Value} (hr : WF root.toValue)
    (hwa : WF a) (hwb : WF b) (hl : RelL (IR root s) (C10.layersOf a) (C10.layersOf b))
    (hb : IR root s b x) : IR root s a x := by
  obtain ⟨ys, z, hys, hf, hz⟩ := rl_of_ir hr hwb hb
  exact ir_of_rl hr hwa ⟨ys, z, relL_trans_ccw hr hl (wfL_layersOf hwa) hys, hf, hz⟩

/-! ## One path segment -/

theorem ir_map_lookup {root : Mapping} {s : RState} {es : List (Key × Value)} {ck ok : List Key}
    {key : Key} {b x : Value} (hr : WF root.toValue) (hw : WF (.map es ck ok))
    (hx : IR root s (.map es ck ok) x) (hk : lookup key es = some b) :
    ∃ xes xck xok x', x = .map xes xck xok ∧ lookup key xes = some x' ∧
      IR root (s.pushMappingKey key) b x' := by
  obtain ⟨_, s', hm⟩ := hx
  obtain ⟨m, mm, rfl, h4, rfl, _⟩ := interp_map_ok hm
  obtain ⟨xs, hxs, hrel⟩ := interpEs_rel hr es m {} mm hw.1 hw.2 h4
  obtain ⟨x', hx', hbx'⟩ := relEs_lookup hrel hk
  exact ⟨mm.es, mm.ck, mm.ok, x', rfl, by rw [hxs]; exact hx', hbx'⟩

theorem step_vl {root : Mapping} {n : Nat} {l : List Value} {stA stA' s : RState}
    {es : List (Key × Value)} {ck ok : List Key} {key : Key} {v' x : Value}
    (hr : WF root.toValue) (hw : WF (.vl l)) (hl : Layered (.vl l))
    (hA : interpStrOrVl n root (.vl l) stA = .ok (.map es ck ok, stA'))
    (hk : lookup key es = some v') (hx : IR root s (.vl l) x) :
    ∃ xes xck xok x', x = .map xes xck xok ∧ lookup key xes = some x' ∧
      IR root (s.pushMappingKey key) v' x' ∧ WF v' ∧ Layered v' := by
  have hwM : WF (.map es ck ok) := (interpInv n).interpStrOrVl root _ stA _ stA' hr hw hA
  have hwv' : WF v' := lookup_some_wf hwM.1 hk
  obtain ⟨n, i, rfl, h1, h2, _⟩ := interpStrOrVl_vl_ok hA
  obtain ⟨_, s', hm⟩ := hx
  obtain ⟨m, r, rfl, h3, hm⟩ := interp_vl_ok hm
  have hwr : WF r := (interpInv m).interpVl root l .null s r hr hw trivial h3
  obtain ⟨xs, hxs, hf⟩ := interpVl_spec l m .null r h3
  -- the raw merge `.map es ck ok` and the merge `r` of the interpolated layers, key by key
  have hlay := layers_rel hr (layersStr_spec l n i h1) hw hl hxs
  cases flatVl_rel (lr_combineClosed root s) hlay .null h2 hf with
  | other ta tb => simp [tag] at ta
  | map hrel =>
    obtain ⟨b, hb, hLR⟩ := relEs_lookup hrel hk
    obtain ⟨xes, xck, xok, x', rfl, hx', hbx'⟩ := ir_map_lookup hr hwr ⟨m, s', hm⟩ hb
    exact ⟨xes, xck, xok, x', rfl, hx', ir_of_layers hr hwv' (lookup_some_wf hwr.1 hb) hLR.1 hbx',
      hwv', (layered_iff v').2 hLR.2⟩

/-- One segment of the path.  The raw value `v` is what the lookup loop of `Token::resolve`
currently holds; `interpolate_string_or_valuelist` turned it into the mapping `es`, which has
`v'` under `key`.  If `v` interpolates to `x`, then `x` is a mapping that has `key`, and what it
holds there is what `v'` interpolates to. -/
theorem step {root : Mapping} {n : Nat} {v : Value} {stA stA' s : RState}
    {es : List (Key × Value)} {ck ok : List Key} {key : Key} {v' x : Value}
    (hr : WF root.toValue) (hw : WF v) (hl : Layered v)
    (hA : interpStrOrVl n root v stA = .ok (.map es ck ok, stA'))
    (hk : lookup key es = some v') (hx : IR root s v x) :
    ∃ xes xck xok x', x = .map xes xck xok ∧ lookup key xes = some x' ∧
      IR root (s.pushMappingKey key) v' x' ∧ WF v' ∧ Layered v' := by
  cases v with
  | vl l => exact step_vl hr hw hl hA hk hx
  | str s0 =>
    cases n with
    | zero => cases hA
    | succ n =>
      have hA' : IR root stA (.str s0) (.map es ck ok) := ⟨n, stA', hA⟩
      cases hx.det hA'
      have hcv := ccw_lookup (hA'.ccw hr hw) hk
      exact ⟨es, ck, ok, v', rfl, hk, ir_self hcv _ _, hcv.2.2,
        layered_of_vlFree (closed_vlFree v' hcv.1)⟩
  | map es0 ck0 ok0 =>
    cases n with
    | zero => cases hA
    | succ n =>
      cases hA
      obtain ⟨xes, xck, xok, x', rfl, hx', hbx'⟩ := ir_map_lookup hr hw hx hk
      exact ⟨xes, xck, xok, x', rfl, hx', hbx', lookup_some_wf hw.1 hk,
        layered_of_vlFree (lookup_vlFree hl hk)⟩
  | _ => cases n <;> cases hA

/-! ## The whole path -/

/-- If the lookup loop of `Token::resolve` walks `segs` from the raw value `v` and ends at the
raw value `vd`, and `v` interpolates to `x`, then the same segments can be walked through the
*rendered* mappings from `x` (`Refs.rawPath`, i.e. iterated `IndexMap::get`), and what is found
there is what `vd` interpolates to. -/
theorem descend_path {root : Mapping} {path : Str} (hr : WF root.toValue) :
    ∀ (segs : List Str) (n : Nat) (v vd : Value) (stA sA : RState) (x : Value) (s : RState),
    WF v → Layered v → IR root s v x → descend n root v segs stA path = .ok (vd, sA) →
    ∃ y s1, rawPath x segs = some y ∧ IR root s1 vd y ∧ WF vd
  | [], n, v, vd, stA, sA, x, s, hw, _, hx, h => by
    cases n with
    | zero => cases h
    | succ n => cases h; exact ⟨x, s, rfl, hx, hw⟩
  | key :: rest, n, v, vd, stA, sA, x, s, hw, hl, hx, h => by
    obtain ⟨n, es, ck, ok, st1, v', rfl, h1, h2, h⟩ := descend_cons_ok' h
    obtain ⟨xes, xck, xok, x', rfl, hlx, hx', hw', hl'⟩ := step hr hw hl h1 h2 hx
    obtain ⟨y, s1, hy, hvd, hwd⟩ := descend_path hr rest n v' vd st1 sA x' _ hw' hl' hx' h
    exact ⟨y, s1, by simp only [rawPath, hlx]; exact hy, hvd, hwd⟩

theorem finalLoop_then_interp_exact {a b : Nat} {root : Mapping} {vd v r y : Value}
    {s s3 s' s1 : RState} (hr : WF root.toValue) (hvd : WF vd)
    (h1 : finalLoop a root vd s = .ok (v, s3)) (h2 : interp b root v s3 = .ok (r, s'))
    (hy : IR root s1 vd y) : r = y := by
  obtain ⟨m, s0', h0⟩ := hy
  exact finalLoop_then_interp hr hvd h1 h2 h0

/-! ## Where `Layered` comes from: `Mapping::merge` of mappings free of layer lists -/

def LayeredEs : List (Key × Value) → Prop
  | [] => True
  | (_, v) :: es => Layered v ∧ LayeredEs es

theorem lookup_layered {k : Key} {es : List (Key × Value)} {v : Value} (h : LayeredEs es)
    (hl : lookup k es = some v) : Layered v :=
  es_lookup (Q := fun _ v => Layered v) (fun _ _ _ => Iff.rfl) h hl

theorem layeredEs_of_vlFreeEs : ∀ (es : List (Key × Value)), VlFreeEs es → LayeredEs es
  | [], _ => trivial
  | _ :: es, h => ⟨layered_of_vlFree h.1, layeredEs_of_vlFreeEs es h.2⟩

theorem combine_layered {old v : Value} (ho : Layered old) (hv : VlFree v) :
    Layered (combine old v) := by
  rw [layered_iff, C10.combine_layers, vlFreeL_append]
  exact ⟨(layered_iff old).1 ho, (layered_iff v).1 (layered_of_vlFree hv)⟩

theorem insertImpl_layered {m m' : Mapping} {k : Key} {v : Value} {fc fo : Bool}
    (hm : LayeredEs m.es) (hv : VlFree v) (h : m.insertImpl k v fc fo = .ok m') :
    LayeredEs m'.es :=
  insertImpl_es (Q := fun _ v => Layered v) (fun _ _ _ => Iff.rfl) trivial hm (layered_of_vlFree hv)
    (fun _ ho => combine_layered ho hv) h

theorem mergeEntries_layered {ock ook : List Key} : ∀ {es : List (Key × Value)} {m m' : Mapping},
    LayeredEs m.es → VlFreeEs es → m.mergeEntries ock ook es = .ok m' → LayeredEs m'.es
  | [], m, m', hm, _, h => by cases h; exact hm
  | (k, v) :: es, m, m', hm, hes, h => by
    obtain ⟨m1, h1, h⟩ := mergeEntries_cons_ok.1 h
    exact mergeEntries_layered (insertImpl_layered hm hes.1 h1) hes.2 h

end Commute
end Reclass
