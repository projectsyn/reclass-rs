/-
  Lemmas about the reference grammar model (`Reclass/Model/Parser.lean`): consumption, fuel
  monotonicity and adequacy, shape of results.
-/
import Reclass.Model.Parser
namespace Reclass

/-! ### `scan` -/

theorem scan_suffix (step : Str → Option (Str × Nat)) :
    ∀ (i : Str) (k : Nat), (scan step k i).2 <:+ i
  | [], _ => by simp [scan]
  | c :: cs, k + 1 => by
    rw [scan]
    exact (scan_suffix step cs k).trans (List.suffix_cons c cs)
  | c :: cs, 0 => by
    rw [scan]
    cases step (c :: cs) with
    | none => exact List.suffix_refl _
    | some p => exact (scan_suffix step cs (p.2 - 1)).trans (List.suffix_cons c cs)

theorem scan_length_le (step : Str → Option (Str × Nat)) (i : Str) (k : Nat) :
    (scan step k i).2.length ≤ i.length :=
  (scan_suffix step i k).length_le

theorem scan_stop {step : Str → Option (Str × Nat)} {i : Str} (h : step i = none) :
    scan step 0 i = ([], i) := by
  cases i with
  | nil => rfl
  | cons c cs => simp only [scan, h]

theorem scan_skip (step : Str → Option (Str × Nat)) :
    ∀ (i : Str) (k : Nat), scan step k i = scan step 0 (i.drop k)
  | [], k => by simp [scan]
  | c :: cs, 0 => rfl
  | c :: cs, k + 1 => by
    simp only [scan, List.drop_succ_cons]
    exact scan_skip step cs k

theorem scan_step {step : Str → Option (Str × Nat)} {c : Char} {cs out : Str} {n : Nat}
    (h : step (c :: cs) = some (out, n)) :
    scan step 0 (c :: cs) =
      (out ++ (scan step 0 (cs.drop (n - 1))).1, (scan step 0 (cs.drop (n - 1))).2) := by
  simp only [scan, h]
  rw [scan_skip]

theorem scan_progress (step : Str → Option (Str × Nat)) (i : Str)
    (h : (scan step 0 i).1 ≠ []) : (scan step 0 i).2.length < i.length := by
  cases i with
  | nil => exact absurd rfl h
  | cons c cs =>
    cases hs : step (c :: cs) with
    | none => rw [scan_stop hs] at h; exact absurd rfl h
    | some p =>
      simp only [scan, hs]
      exact Nat.lt_succ_of_le (scan_length_le step cs _)

theorem scan_run {step : Str → Option (Str × Nat)} :
    ∀ (p rest : Str), (∀ c ∈ p, ∀ r, step (c :: r) = some ([c], 1)) →
      scan step 0 (p ++ rest) = (p ++ (scan step 0 rest).1, (scan step 0 rest).2)
  | [], rest, _ => rfl
  | c :: cs, rest, h => by
    rw [List.cons_append, scan_step (h c List.mem_cons_self (cs ++ rest)), Nat.sub_self,
      List.drop_zero, scan_run cs rest (fun d hd r => h d (List.mem_cons_of_mem _ hd) r)]
    rfl

theorem scan_run_stop {step : Str → Option (Str × Nat)} {p rest : Str}
    (hp : ∀ c ∈ p, ∀ r, step (c :: r) = some ([c], 1)) (hr : step rest = none) :
    scan step 0 (p ++ rest) = (p, rest) := by
  rw [scan_run p rest hp, scan_stop hr]; simp

/-! ### `startsWith` -/

theorem startsWith_iff_prefix : ∀ (i p : Str), startsWith i p = true ↔ p <+: i
  | _, [] => by simp [startsWith]
  | [], _ :: _ => by simp [startsWith]
  | c :: cs, p :: ps => by
    simp only [startsWith, Bool.and_eq_true, beq_iff_eq, startsWith_iff_prefix cs ps,
      List.cons_prefix_cons]
    constructor <;> (rintro ⟨h1, h2⟩; exact ⟨h1.symm, h2⟩)

theorem startsWith_eq {i p : Str} (h : startsWith i p = true) : i = p ++ i.drop p.length := by
  obtain ⟨r, rfl⟩ := (startsWith_iff_prefix _ _).1 h
  rw [List.drop_left]

theorem startsWith_cons_ne {c d : Char} {cs ps : Str} (h : c ≠ d) :
    startsWith (c :: cs) (d :: ps) = false := by
  simp [startsWith, h]

/-! ### The character loops `content` and `ref_string` -/

theorem contentStep_plain {c : Char} (h1 : c ≠ '$') (h2 : c ≠ '\\') (r : Str) :
    contentStep (c :: r) = some ([c], 1) := by
  simp [contentStep, refNotOpen, startsWith_cons_ne h1, startsWith_cons_ne h2]

theorem refStringStep_plain {c : Char} (h1 : c ≠ '$') (h2 : c ≠ '\\') (h3 : c ≠ '}') (r : Str) :
    refStringStep (c :: r) = some ([c], 1) := by
  simp [refStringStep, refNotOpen, refNotClose, startsWith_cons_ne h1, startsWith_cons_ne h2,
    startsWith_cons_ne h3]

theorem contentStep_nil : contentStep [] = none := rfl
theorem contentStep_open (r : Str) : contentStep ('$' :: '{' :: r) = none := by
  simp [contentStep, refNotOpen, startsWith]
theorem contentStep_dblEsc (r : Str) : contentStep ('\\' :: '\\' :: '$' :: '{' :: r) = none := by
  simp [contentStep, refNotOpen, startsWith]
theorem refStringStep_nil : refStringStep [] = none := by
  simp [refStringStep, startsWith]
theorem refStringStep_open (r : Str) : refStringStep ('$' :: '{' :: r) = none := by
  simp [refStringStep, refNotOpen, startsWith]
theorem refStringStep_close (r : Str) : refStringStep ('}' :: r) = none := by
  simp [refStringStep, refNotClose, startsWith]

theorem content_cons (c : Char) (r : Str) :
    content (c :: r) =
      if refNotOpen (c :: r) then (c :: (content r).1, (content r).2) else ([], c :: r) := by
  cases h : refNotOpen (c :: r) with
  | true =>
    have hs : contentStep (c :: r) = some ([c], 1) := by simp [contentStep, h]
    exact scan_step hs
  | false =>
    have hs : contentStep (c :: r) = none := by simp [contentStep, h]
    exact scan_stop hs

theorem content_run_stop {p rest : Str} (hp : ∀ c ∈ p, c ≠ '$' ∧ c ≠ '\\')
    (hr : contentStep rest = none) : content (p ++ rest) = (p, rest) :=
  scan_run_stop (fun c hc r => contentStep_plain (hp c hc).1 (hp c hc).2 r) hr

theorem refString_run {p rest : Str} (hp : ∀ c ∈ p, c ≠ '$' ∧ c ≠ '\\' ∧ c ≠ '}') :
    refString (p ++ rest) = (p ++ (refString rest).1, (refString rest).2) :=
  scan_run p rest (fun c hc r => refStringStep_plain (hp c hc).1 (hp c hc).2.1 (hp c hc).2.2 r)

theorem refString_run_stop {p rest : Str} (hp : ∀ c ∈ p, c ≠ '$' ∧ c ≠ '\\' ∧ c ≠ '}')
    (hr : refStringStep rest = none) : refString (p ++ rest) = (p, rest) :=
  scan_run_stop (fun c hc r => refStringStep_plain (hp c hc).1 (hp c hc).2.1 (hp c hc).2.2 r) hr

theorem refString_escClose (r : Str) :
    refString ('\\' :: '}' :: r) = ('}' :: (refString r).1, (refString r).2) := by
  have hs : refStringStep ('\\' :: '}' :: r) = some (['}'], 2) := by
    simp [refStringStep, startsWith]
  exact scan_step hs

/-! ### The escapes and `stringP`, in the `startsWith` form of `refStringStep` -/

theorem refEscapeOpen_eq (i : Str) :
    refEscapeOpen i =
      if startsWith i ['\\', '$', '{'] then some (['$', '{'], i.drop 3) else none := by
  unfold refEscapeOpen
  split
  · simp [startsWith]
  · next hn => exact (if_neg fun h => hn _ (startsWith_eq h)).symm

theorem invEscapeOpen_eq (i : Str) :
    invEscapeOpen i =
      if startsWith i ['\\', '$', '['] then some (['$', '['], i.drop 3) else none := by
  unfold invEscapeOpen
  split
  · simp [startsWith]
  · next hn => exact (if_neg fun h => hn _ (startsWith_eq h)).symm

theorem doubleEscape_eq (i : Str) :
    doubleEscape i =
      if startsWith i ['\\', '\\', '$', '{'] || startsWith i ['\\', '\\', '}'] then
        some (['\\'], i.drop 2)
      else none := by
  unfold doubleEscape
  split
  · simp [startsWith]
  · next hn =>
    refine (if_neg fun h => ?_).symm
    rcases Bool.or_eq_true_iff.1 h with h | h <;> exact hn _ (startsWith_eq h)

theorem stringP_eq (i : Str) :
    stringP i =
      if startsWith i ['\\', '\\', '$', '{'] || startsWith i ['\\', '\\', '}'] then
        some (['\\'], i.drop 2)
      else if startsWith i ['\\', '$', '{'] then some (['$', '{'], i.drop 3)
      else if startsWith i ['\\', '$', '['] then some (['$', '['], i.drop 3)
      else if (content i).1.isEmpty then none else some (content i) := by
  unfold stringP
  rw [doubleEscape_eq, refEscapeOpen_eq, invEscapeOpen_eq]
  cases startsWith i ['\\', '\\', '$', '{'] || startsWith i ['\\', '\\', '}'] <;>
    cases startsWith i ['\\', '$', '{'] <;> cases startsWith i ['\\', '$', '['] <;> rfl

theorem stringP_nil : stringP [] = none := rfl

def LeafOK (leaf : Str → Option (Str × Str)) : Prop :=
  ∀ {i p}, leaf i = some p → p.2 <:+ i ∧ p.2.length < i.length ∧ p.1 ≠ []

theorem stringP_suffix : LeafOK stringP := by
  intro i p h
  have hi : 0 < i.length := by
    cases i with
    | nil => rw [stringP_nil] at h; cases h
    | cons _ _ => exact Nat.succ_pos _
  have drop : ∀ k, 0 < k → i.drop k <:+ i ∧ (i.drop k).length < i.length :=
    fun k hk => ⟨List.drop_suffix k i, by rw [List.length_drop]; omega⟩
  rw [stringP_eq] at h
  by_cases h1 : (startsWith i ['\\', '\\', '$', '{'] || startsWith i ['\\', '\\', '}']) = true
  · rw [if_pos h1] at h
    cases h; exact ⟨(drop 2 (by omega)).1, (drop 2 (by omega)).2, List.cons_ne_nil _ _⟩
  rw [if_neg h1] at h
  by_cases h2 : startsWith i ['\\', '$', '{'] = true
  · rw [if_pos h2] at h
    cases h; exact ⟨(drop 3 (by omega)).1, (drop 3 (by omega)).2, List.cons_ne_nil _ _⟩
  rw [if_neg h2] at h
  by_cases h3 : startsWith i ['\\', '$', '['] = true
  · rw [if_pos h3] at h
    cases h; exact ⟨(drop 3 (by omega)).1, (drop 3 (by omega)).2, List.cons_ne_nil _ _⟩
  rw [if_neg h3] at h
  by_cases h4 : (content i).1.isEmpty = true
  · rw [if_pos h4] at h; cases h
  · rw [if_neg h4] at h
    cases h
    have hne : (content i).1 ≠ [] := fun h0 => h4 (by rw [h0]; rfl)
    exact ⟨scan_suffix _ _ _, scan_progress _ _ hne, hne⟩

theorem stringP_run_stop {p rest : Str} (hne : p ≠ []) (hp : ∀ c ∈ p, c ≠ '$' ∧ c ≠ '\\')
    (hr : contentStep rest = none) : stringP (p ++ rest) = some (p, rest) := by
  cases p with
  | nil => exact absurd rfl hne
  | cons c cs =>
    rw [stringP_eq, content_run_stop hp hr]
    simp [startsWith_cons_ne (hp c List.mem_cons_self).2]

theorem stringP_open (r : Str) : stringP ('$' :: '{' :: r) = none := by
  rw [stringP_eq, show content ('$' :: '{' :: r) = ([], '$' :: '{' :: r) from
    scan_stop (contentStep_open r)]
  simp [startsWith]

/-! ### `reference`: inversion -/

theorem reference_ok_inv {n : Nat} {i : Str} {t : Token} {rest : Str}
    (h : reference n i = .ok (t, rest)) :
    ∃ m r ts, n = m + 1 ∧ i = '$' :: '{' :: r ∧ refItems m r = .ok (ts, '}' :: rest) ∧
      ts ≠ [] ∧ t = .ref (coalesce ts) := by
  unfold reference at h
  split at h
  · simp at h
  · rename_i m r
    refine ⟨m, r, ?_⟩
    split at h
    · simp at h
    · simp at h
    · rename_i ts rest' hne heq
      simp only [Except.ok.injEq, Prod.mk.injEq] at h
      obtain ⟨h1, h2⟩ := h
      subst h1 h2
      refine ⟨ts, rfl, rfl, heq, ?_, rfl⟩
      intro h0; subst h0; exact hne rfl
    · simp at h
  · simp at h

theorem reference_not_open {n : Nat} {i : Str} (h : startsWith i ['$', '{'] = false) :
    reference (n + 1) i = .error .fail := by
  -- `reference.eq_1`, `.eq_2`, `.eq_3` (here and below): the clauses of its definition in the
  -- order written (no fuel; input opening with `${`; any other input). `items`, `refItems` alike.
  rw [reference.eq_3]
  intro rest hr
  subst hr
  simp [startsWith] at h

theorem reference_of_refItems {n : Nat} {r rest : Str} {ts : List Token}
    (h : refItems n r = .ok (ts, '}' :: rest)) (hne : ts ≠ []) :
    reference (n + 1) ('$' :: '{' :: r) = .ok (.ref (coalesce ts), rest) := by
  rw [reference.eq_2, h]
  cases ts with
  | nil => exact absurd rfl hne
  | cons t ts => rfl

def consTok (t : Token) : Except PErr (List Token × Str) → Except PErr (List Token × Str)
  | .error e => .error e
  | .ok (ts, r) => .ok (t :: ts, r)

@[simp] theorem consTok_error (t : Token) (e : PErr) : consTok t (.error e) = .error e := rfl
@[simp] theorem consTok_ok (t : Token) (ts : List Token) (r : Str) :
    consTok t (.ok (ts, r)) = .ok (t :: ts, r) := rfl

theorem consTok_eq_ok {t : Token} {x : Except PErr (List Token × Str)} {ts : List Token} {r : Str}
    (h : consTok t x = .ok (ts, r)) : ∃ ts', ts = t :: ts' ∧ x = .ok (ts', r) := by
  cases x with
  | error e => cases h
  | ok p => cases h; exact ⟨p.1, rfl, rfl⟩

theorem consTok_eq_error {t : Token} {x : Except PErr (List Token × Str)} {e : PErr} :
    consTok t x = .error e ↔ x = .error e := by
  cases x with
  | error e' => exact Iff.rfl
  | ok p => exact ⟨(nomatch ·), (nomatch ·)⟩

/-! ### `items` and `refItems` are one loop -/

/-- One round of an item loop on input `i`: `r` is what `reference` made of `i`, `leaf` parses
literal text when `reference` does not apply, `k` is the loop on what is left. -/
def itemStep (leaf : Str → Option (Str × Str)) (k : Str → Except PErr (List Token × Str))
    (r : Except PErr (Token × Str)) (i : Str) : Except PErr (List Token × Str) :=
  match r with
  | .error .fuel => .error .fuel
  | .ok (t, rest) => consTok t (k rest)
  | .error .fail =>
    match leaf i with
    | some (s, rest) => consTok (.lit s) (k rest)
    | none => .ok ([], i)

/-- `ref_string` as a leaf parser: `many1` fails on empty text. -/
def refLeaf (i : Str) : Option (Str × Str) :=
  if (refString i).1.isEmpty then none else some (refString i)

theorem items_succ (n : Nat) (i : Str) :
    items (n + 1) i = itemStep stringP (items n) (reference n i) i := by
  rw [items.eq_2]
  unfold itemStep
  cases reference n i with
  | ok p => cases items n p.2 <;> rfl
  | error e =>
    cases e with
    | fuel => rfl
    | fail =>
      cases stringP i with
      | none => rfl
      | some p => cases items n p.2 <;> rfl

theorem refItems_succ (n : Nat) (i : Str) :
    refItems (n + 1) i = itemStep refLeaf (refItems n) (reference n i) i := by
  rw [refItems.eq_2]
  unfold itemStep refLeaf
  cases reference n i with
  | ok p => cases refItems n p.2 <;> rfl
  | error e =>
    cases e with
    | fuel => rfl
    | fail =>
      cases h : (refString i).1.isEmpty with
      | true => simp [h]
      | false =>
        simp only [h, Bool.not_false, if_true, Bool.false_eq_true, if_false]
        cases refItems n (refString i).2 <;> rfl

theorem itemStep_leaf {leaf : Str → Option (Str × Str)} {k : Str → Except PErr (List Token × Str)}
    {i : Str} {p : Str × Str} (hl : leaf i = some p) :
    itemStep leaf k (.error .fail) i = consTok (.lit p.1) (k p.2) := by
  simp only [itemStep, hl]

theorem itemStep_stop {leaf : Str → Option (Str × Str)} {k : Str → Except PErr (List Token × Str)}
    {i : Str} (hl : leaf i = none) : itemStep leaf k (.error .fail) i = .ok ([], i) := by
  simp only [itemStep, hl]

theorem refLeaf_some {i : Str} (hs : (refString i).1 ≠ []) : refLeaf i = some (refString i) := by
  unfold refLeaf
  cases h : (refString i).1 with
  | nil => exact absurd h hs
  | cons _ _ => rfl

theorem refLeaf_none {i : Str} (hs : (refString i).1 = []) : refLeaf i = none := by
  simp [refLeaf, hs]

theorem refLeaf_run_stop {p rest : Str} (hne : p ≠ [])
    (hp : ∀ c ∈ p, c ≠ '$' ∧ c ≠ '\\' ∧ c ≠ '}') (hr : refStringStep rest = none) :
    refLeaf (p ++ rest) = some (p, rest) := by
  have hs := refString_run_stop hp hr
  rw [refLeaf_some (by rw [hs]; exact hne), hs]

theorem refItems_fuel {n : Nat} {i : Str} (h : reference n i = .error .fuel) :
    refItems (n + 1) i = .error .fuel := by
  rw [refItems_succ, h]; rfl

theorem refItems_ref {n : Nat} {i rest : Str} {t : Token} (h : reference n i = .ok (t, rest)) :
    refItems (n + 1) i = consTok t (refItems n rest) := by
  rw [refItems_succ, h]; rfl

theorem refItems_str {n : Nat} {i : Str} (h : reference n i = .error .fail)
    (hs : (refString i).1 ≠ []) :
    refItems (n + 1) i = consTok (.lit (refString i).1) (refItems n (refString i).2) := by
  rw [refItems_succ, h, itemStep_leaf (refLeaf_some hs)]

theorem refItems_stop {n : Nat} {i : Str} (h : reference n i = .error .fail)
    (hs : (refString i).1 = []) : refItems (n + 1) i = .ok ([], i) := by
  rw [refItems_succ, h, itemStep_stop (refLeaf_none hs)]

theorem items_fuel {n : Nat} {i : Str} (h : reference n i = .error .fuel) :
    items (n + 1) i = .error .fuel := by
  rw [items_succ, h]; rfl

theorem items_ref {n : Nat} {i rest : Str} {t : Token} (h : reference n i = .ok (t, rest)) :
    items (n + 1) i = consTok t (items n rest) := by
  rw [items_succ, h]; rfl

theorem items_str {n : Nat} {i s rest : Str} (h : reference n i = .error .fail)
    (hs : stringP i = some (s, rest)) :
    items (n + 1) i = consTok (.lit s) (items n rest) := by
  rw [items_succ, h, itemStep_leaf hs]

theorem items_stop {n : Nat} {i : Str} (h : reference n i = .error .fail)
    (hs : stringP i = none) : items (n + 1) i = .ok ([], i) := by
  rw [items_succ, h, itemStep_stop hs]

theorem itemStep_ok {leaf : Str → Option (Str × Str)} {k : Str → Except PErr (List Token × Str)}
    {r : Except PErr (Token × Str)} {i rest : Str} {ts : List Token}
    (h : itemStep leaf k r i = .ok (ts, rest)) :
    (∃ t j ts', r = .ok (t, j) ∧ k j = .ok (ts', rest) ∧ ts = t :: ts') ∨
    (r = .error .fail ∧ ∃ s j ts', leaf i = some (s, j) ∧ k j = .ok (ts', rest) ∧
      ts = .lit s :: ts') ∨
    (r = .error .fail ∧ leaf i = none ∧ ts = [] ∧ rest = i) := by
  unfold itemStep at h
  split at h
  · cases h
  · next t j =>
    obtain ⟨ts', h1, h2⟩ := consTok_eq_ok h
    exact .inl ⟨t, j, ts', rfl, h2, h1⟩
  · split at h
    · next s j hl =>
      obtain ⟨ts', h1, h2⟩ := consTok_eq_ok h
      exact .inr (.inl ⟨rfl, s, j, ts', hl, h2, h1⟩)
    · next hl =>
      cases h
      exact .inr (.inr ⟨rfl, hl, rfl, rfl⟩)

theorem refLeaf_ok : LeafOK refLeaf := by
  intro i p h
  unfold refLeaf at h
  split at h
  · cases h
  · next hne =>
    cases h
    have hne' : (refString i).1 ≠ [] := fun h0 => hne (by rw [h0]; rfl)
    exact ⟨scan_suffix _ _ _, scan_progress _ _ hne', hne'⟩

theorem itemStep_consumes {leaf : Str → Option (Str × Str)}
    {k : Str → Except PErr (List Token × Str)} {r : Except PErr (Token × Str)} {i rest : Str}
    {ts : List Token} (hleaf : LeafOK leaf)
    (hr : ∀ {t j}, r = .ok (t, j) → j <:+ i ∧ j.length < i.length)
    (hk : ∀ {j ts rest}, k j = .ok (ts, rest) → rest <:+ j)
    (h : itemStep leaf k r i = .ok (ts, rest)) :
    rest <:+ i ∧ (ts ≠ [] → rest.length < i.length) := by
  rcases itemStep_ok h with ⟨t, j, ts', h1, h2, rfl⟩ | ⟨_, s, j, ts', h1, h2, rfl⟩ |
    ⟨_, _, rfl, rfl⟩
  · exact ⟨(hk h2).trans (hr h1).1, fun _ => Nat.lt_of_le_of_lt (hk h2).length_le (hr h1).2⟩
  · exact ⟨(hk h2).trans (hleaf h1).1,
      fun _ => Nat.lt_of_le_of_lt (hk h2).length_le (hleaf h1).2.1⟩
  · exact ⟨List.suffix_refl _, fun h => absurd rfl h⟩

theorem itemStep_congr {leaf : Str → Option (Str × Str)}
    {k k' : Str → Except PErr (List Token × Str)} {r : Except PErr (Token × Str)} {i : Str}
    (h : itemStep leaf k r i ≠ .error .fuel) (hk : ∀ j, k j ≠ .error .fuel → k' j = k j) :
    itemStep leaf k' r i = itemStep leaf k r i := by
  have hc : ∀ t j, consTok t (k j) ≠ .error .fuel → consTok t (k' j) = consTok t (k j) :=
    fun t j h => by rw [hk j (fun h0 => h (consTok_eq_error.2 h0))]
  cases r with
  | ok p => exact hc p.1 p.2 h
  | error e =>
    cases e with
    | fuel => rfl
    | fail =>
      cases hl : leaf i with
      | none => rw [itemStep_stop hl, itemStep_stop hl]
      | some p =>
        rw [itemStep_leaf hl] at h
        rw [itemStep_leaf hl, itemStep_leaf hl]
        exact hc _ _ h

theorem itemStep_ne_fuel {leaf : Str → Option (Str × Str)}
    {k : Str → Except PErr (List Token × Str)} {r : Except PErr (Token × Str)} {i : Str}
    (hleaf : LeafOK leaf) (hr : r ≠ .error .fuel)
    (hrc : ∀ {t j}, r = .ok (t, j) → j.length < i.length)
    (hk : ∀ j : Str, j.length < i.length → k j ≠ .error .fuel) :
    itemStep leaf k r i ≠ .error .fuel := by
  cases r with
  | ok p => exact fun h => hk p.2 (hrc rfl) (consTok_eq_error.1 h)
  | error e =>
    cases e with
    | fuel => exact absurd rfl hr
    | fail =>
      cases hl : leaf i with
      | none => rw [itemStep_stop hl]; exact fun h => nomatch h
      | some p =>
        rw [itemStep_leaf hl]
        exact fun h => hk p.2 (hleaf hl).2.1 (consTok_eq_error.1 h)

/-! ### Consumption -/

theorem ref_consumes_aux : ∀ n,
    (∀ i t rest, reference n i = .ok (t, rest) → rest <:+ i ∧ rest.length < i.length) ∧
    (∀ i ts rest, refItems n i = .ok (ts, rest) →
      rest <:+ i ∧ (ts ≠ [] → rest.length < i.length))
  | 0 => ⟨fun _ _ _ h => (by cases h), fun _ _ _ h => (by cases h)⟩
  | n + 1 => by
    obtain ⟨ihR, ihI⟩ := ref_consumes_aux n
    refine ⟨fun i t rest h => ?_, fun i ts rest h => ?_⟩
    · obtain ⟨m, r, ts, hm, rfl, hri, _, _⟩ := reference_ok_inv h
      obtain rfl : m = n := by omega
      have hs := (ihI _ _ _ hri).1
      refine ⟨((List.suffix_cons '}' rest).trans hs).trans (List.suffix_append ['$', '{'] r), ?_⟩
      have := hs.length_le
      simp only [List.length_cons] at this ⊢
      omega
    · rw [refItems_succ] at h
      exact itemStep_consumes refLeaf_ok (ihR _ _ _) (fun h => (ihI _ _ _ h).1) h

theorem reference_consumes {n : Nat} {i rest : Str} {t : Token}
    (h : reference n i = .ok (t, rest)) : rest <:+ i ∧ rest.length < i.length :=
  (ref_consumes_aux n).1 i t rest h

theorem refItems_consumes {n : Nat} {i rest : Str} {ts : List Token}
    (h : refItems n i = .ok (ts, rest)) : rest <:+ i ∧ (ts ≠ [] → rest.length < i.length) :=
  (ref_consumes_aux n).2 i ts rest h

theorem items_consumes : ∀ {n : Nat} {i rest : Str} {ts : List Token},
    items n i = .ok (ts, rest) → rest <:+ i ∧ (ts ≠ [] → rest.length < i.length)
  | 0, _, _, _, h => by cases h
  | n + 1, _, _, _, h =>
    itemStep_consumes stringP_suffix reference_consumes (fun h => (items_consumes h).1)
      (items_succ n _ ▸ h)

/-! ### Fuel monotonicity -/

theorem startsWith_open_eq {i : Str} (h : startsWith i ['$', '{'] = true) :
    ∃ r, i = '$' :: '{' :: r := by
  obtain ⟨r, hr⟩ := (startsWith_iff_prefix i ['$', '{']).1 h
  exact ⟨r, hr.symm⟩

theorem reference_fuel_iff {n : Nat} {r : Str} :
    reference (n + 1) ('$' :: '{' :: r) = .error .fuel ↔ refItems n r = .error .fuel := by
  rw [reference.eq_2]
  split <;> simp [*]

theorem itemStep_fuel_left {leaf : Str → Option (Str × Str)}
    {k : Str → Except PErr (List Token × Str)} {r : Except PErr (Token × Str)} {i : Str}
    (h : itemStep leaf k r i ≠ .error .fuel) : r ≠ .error .fuel :=
  fun h0 => h (by rw [h0]; rfl)

theorem ref_mono_aux : ∀ n,
    (∀ i, reference n i ≠ .error .fuel → reference (n + 1) i = reference n i) ∧
    (∀ i, refItems n i ≠ .error .fuel → refItems (n + 1) i = refItems n i)
  | 0 => ⟨fun _ h => absurd rfl h, fun _ h => absurd rfl h⟩
  | n + 1 => by
    obtain ⟨ihR, ihI⟩ := ref_mono_aux n
    refine ⟨fun i h => ?_, fun i h => ?_⟩
    · cases ho : startsWith i ['$', '{'] with
      | false => rw [reference_not_open ho, reference_not_open ho]
      | true =>
        obtain ⟨r, rfl⟩ := startsWith_open_eq ho
        rw [reference.eq_2, reference.eq_2, ihI r (fun h0 => h (reference_fuel_iff.2 h0))]
    · rw [refItems_succ] at h
      rw [refItems_succ, refItems_succ, ihR i (itemStep_fuel_left h)]
      exact itemStep_congr h ihI

theorem reference_mono {n : Nat} {i : Str} (h : reference n i ≠ .error .fuel) :
    reference (n + 1) i = reference n i := (ref_mono_aux n).1 i h

theorem refItems_mono {n : Nat} {i : Str} (h : refItems n i ≠ .error .fuel) :
    refItems (n + 1) i = refItems n i := (ref_mono_aux n).2 i h

theorem items_mono : ∀ {n : Nat} {i : Str}, items n i ≠ .error .fuel →
    items (n + 1) i = items n i
  | 0, _, h => absurd rfl h
  | n + 1, i, h => by
    rw [items_succ] at h
    rw [items_succ, items_succ, reference_mono (itemStep_fuel_left h)]
    exact itemStep_congr h (fun _ => items_mono)

theorem mono_le_of_succ {α : Type} {f : Nat → α} {bad : α}
    (hstep : ∀ n, f n ≠ bad → f (n + 1) = f n) {n m : Nat} (h : f n ≠ bad) (hle : n ≤ m) :
    f m = f n := by
  induction hle with
  | refl => rfl
  | step _ ih => rw [hstep _ (by rw [ih]; exact h), ih]

theorem reference_mono_le {n m : Nat} {i : Str} (h : reference n i ≠ .error .fuel)
    (hle : n ≤ m) : reference m i = reference n i :=
  mono_le_of_succ (f := fun n => reference n i) (fun _ => reference_mono) h hle

theorem refItems_mono_le {n m : Nat} {i : Str} (h : refItems n i ≠ .error .fuel)
    (hle : n ≤ m) : refItems m i = refItems n i :=
  mono_le_of_succ (f := fun n => refItems n i) (fun _ => refItems_mono) h hle

theorem items_mono_le {n m : Nat} {i : Str} (h : items n i ≠ .error .fuel)
    (hle : n ≤ m) : items m i = items n i :=
  mono_le_of_succ (f := fun n => items n i) (fun _ => items_mono) h hle

theorem parseRefF_fuel_iff {n : Nat} {s : Str} :
    parseRefF n s = .error .fuel ↔ items n s = .error .fuel := by
  unfold parseRefF
  split
  · next e he => simp [he]
  · simp [*]
  · split <;> simp [*]
  · simp [*]

theorem parseRefF_mono_le {n m : Nat} {s : Str} (h : parseRefF n s ≠ .error .fuel)
    (hle : n ≤ m) : parseRefF m s = parseRefF n s := by
  unfold parseRefF
  rw [items_mono_le (fun h0 => h (parseRefF_fuel_iff.2 h0)) hle]

theorem parseRefF_stable {n m : Nat} {s : Str} (hn : parseRefF n s ≠ .error .fuel)
    (hm : parseRefF m s ≠ .error .fuel) : parseRefF n s = parseRefF m s := by
  rcases Nat.le_total n m with h | h
  · exact (parseRefF_mono_le hn h).symm
  · exact parseRefF_mono_le hm h

/-! ### Fuel adequacy: `|i| + 2` is always enough -/

theorem ref_fuel_aux : ∀ n,
    (∀ i : Str, i.length + 1 ≤ n → reference n i ≠ .error .fuel) ∧
    (∀ i : Str, i.length + 2 ≤ n → refItems n i ≠ .error .fuel)
  | 0 => ⟨fun _ h => (by omega), fun _ h => (by omega)⟩
  | n + 1 => by
    obtain ⟨ihR, ihI⟩ := ref_fuel_aux n
    refine ⟨fun i hl => ?_, fun i hl => ?_⟩
    · cases ho : startsWith i ['$', '{'] with
      | false => rw [reference_not_open ho]; exact fun h => nomatch h
      | true =>
        obtain ⟨r, rfl⟩ := startsWith_open_eq ho
        simp only [List.length_cons] at hl
        exact fun h0 => ihI r (by omega) (reference_fuel_iff.1 h0)
    · rw [refItems_succ]
      exact itemStep_ne_fuel refLeaf_ok (ihR i (by omega)) (fun h => (reference_consumes h).2)
        (fun j hj => ihI j (by omega))

theorem reference_fuel_enough {n : Nat} {i : Str} (h : i.length + 1 ≤ n) :
    reference n i ≠ .error .fuel := (ref_fuel_aux n).1 i h

theorem refItems_fuel_enough {n : Nat} {i : Str} (h : i.length + 2 ≤ n) :
    refItems n i ≠ .error .fuel := (ref_fuel_aux n).2 i h

theorem items_fuel_enough : ∀ {n : Nat} {i : Str}, i.length + 2 ≤ n →
    items n i ≠ .error .fuel
  | 0, _, h => by omega
  | n + 1, i, hl => by
    rw [items_succ]
    exact itemStep_ne_fuel stringP_suffix (reference_fuel_enough (by omega))
      (fun h => (reference_consumes h).2) (fun j hj => items_fuel_enough (by omega))

theorem parseRefF_fuel_enough {n : Nat} {s : Str} (h : s.length + 2 ≤ n) :
    parseRefF n s ≠ .error .fuel :=
  fun h0 => items_fuel_enough h (parseRefF_fuel_iff.1 h0)

theorem parseRefF_parseFuel {n : Nat} {s : Str} (h : parseRefF n s ≠ .error .fuel) :
    parseRefF (parseFuel s) s = parseRefF n s :=
  (parseRefF_stable h (parseRefF_fuel_enough (by unfold parseFuel; omega))).symm

/-! ### `coalesce` and the shape of parse results -/

def headIsLit : List Token → Bool
  | t :: _ => t.isLit
  | [] => false

def noAdjLit : List Token → Bool
  | [] => true
  | t :: rest => !(t.isLit && headIsLit rest) && noAdjLit rest

mutual
def Token.wfInner : Token → Bool
  | .lit s => !s.isEmpty
  | .ref ps => !ps.isEmpty && noAdjLit ps && Token.wfInnerL ps
  | .combined _ => false
def Token.wfInnerL : List Token → Bool
  | [] => true
  | t :: ts => t.wfInner && Token.wfInnerL ts
end

def Token.wfTop : Token → Bool
  | .combined ps => decide (2 ≤ ps.length) && noAdjLit ps && Token.wfInnerL ps
  | t => t.wfInner

theorem isLit_eq_false {t : Token} (h : ∀ a, t = .lit a → False) : t.isLit = false := by
  cases t with
  | lit a => exact (h a rfl).elim
  | ref _ => rfl
  | combined _ => rfl

theorem headIsLit_eq_false {l : List Token} (h : ∀ b r, l = .lit b :: r → False) :
    headIsLit l = false := by
  cases l with
  | nil => rfl
  | cons t r => exact isLit_eq_false fun a e => h a r (e ▸ rfl)

theorem coalesce_eq_nil {ts : List Token} (h : coalesce ts = []) : ts = [] := by
  fun_induction coalesce ts with
  | case1 => rfl
  | case2 | case3 | case4 => cases h

theorem headIsLit_coalesce : ∀ (ts : List Token), headIsLit (coalesce ts) = headIsLit ts := by
  intro ts
  fun_induction coalesce ts <;> rfl

theorem noAdjLit_coalesce (ts : List Token) : noAdjLit (coalesce ts) = true := by
  fun_induction coalesce ts with
  | case1 => rfl
  | case2 a rest b rest' h ih => rw [h] at ih; exact ih
  | case3 a rest h ih => simp [noAdjLit, headIsLit_eq_false h, ih]
  | case4 t rest h ih => simp [noAdjLit, isLit_eq_false h, ih]

theorem wfInnerL_coalesce (ts : List Token) (hw : Token.wfInnerL ts = true) :
    Token.wfInnerL (coalesce ts) = true := by
  fun_induction coalesce ts with
  | case1 => rfl
  | case2 a rest b rest' h ih =>
    simp only [Token.wfInnerL, Token.wfInner, Bool.and_eq_true] at hw
    have ih := ih hw.2
    rw [h] at ih
    simp only [Token.wfInnerL, Token.wfInner, Bool.and_eq_true] at ih ⊢
    refine ⟨?_, ih.2⟩
    cases a with
    | nil => simp at hw
    | cons _ _ => rfl
  | case3 a rest h ih =>
    simp only [Token.wfInnerL, Bool.and_eq_true] at hw ⊢
    exact ⟨hw.1, ih hw.2⟩
  | case4 t rest h ih =>
    simp only [Token.wfInnerL, Bool.and_eq_true] at hw ⊢
    exact ⟨hw.1, ih hw.2⟩

theorem coalesce_of_noAdjLit (ts : List Token) (hn : noAdjLit ts = true) : coalesce ts = ts := by
  fun_induction coalesce ts with
  | case1 => rfl
  | case2 a rest b rest' h ih =>
    simp only [noAdjLit, Token.isLit, Bool.true_and, Bool.and_eq_true, Bool.not_eq_true'] at hn
    rw [← ih hn.2, h] at hn
    simp [headIsLit, Token.isLit] at hn
  | case3 a rest h ih =>
    simp only [noAdjLit, Bool.and_eq_true] at hn
    rw [ih hn.2]
  | case4 t rest h ih =>
    simp only [noAdjLit, Bool.and_eq_true] at hn
    rw [ih hn.2]

theorem itemStep_wf {leaf : Str → Option (Str × Str)}
    {k : Str → Except PErr (List Token × Str)} {r : Except PErr (Token × Str)} {i rest : Str}
    {ts : List Token} (hleaf : LeafOK leaf)
    (hr : ∀ {t j}, r = .ok (t, j) → t.wfInner = true)
    (hk : ∀ {j ts rest}, k j = .ok (ts, rest) → Token.wfInnerL ts = true)
    (h : itemStep leaf k r i = .ok (ts, rest)) : Token.wfInnerL ts = true := by
  rcases itemStep_ok h with ⟨t, j, ts', h1, h2, rfl⟩ | ⟨_, s, j, ts', h1, h2, rfl⟩ |
    ⟨_, _, rfl, rfl⟩
  · simp only [Token.wfInnerL, hr h1, hk h2, Bool.and_self]
  · simp only [Token.wfInnerL, Token.wfInner, hk h2, Bool.and_true, Bool.not_eq_true',
      List.isEmpty_eq_false_iff]
    exact (hleaf h1).2.2
  · rfl

theorem wf_aux : ∀ n,
    (∀ i t rest, reference n i = .ok (t, rest) → t.wfInner = true) ∧
    (∀ i ts rest, refItems n i = .ok (ts, rest) → Token.wfInnerL ts = true)
  | 0 => ⟨fun _ _ _ h => (by cases h), fun _ _ _ h => (by cases h)⟩
  | n + 1 => by
    obtain ⟨ihR, ihI⟩ := wf_aux n
    refine ⟨fun i t rest h => ?_, fun i ts rest h => ?_⟩
    · obtain ⟨m, r, ts, hm, rfl, hri, hne, rfl⟩ := reference_ok_inv h
      obtain rfl : m = n := by omega
      simp only [Token.wfInner, Bool.and_eq_true, noAdjLit_coalesce,
        wfInnerL_coalesce _ (ihI _ _ _ hri), and_true, Bool.not_eq_true',
        List.isEmpty_eq_false_iff]
      exact fun hc => hne (coalesce_eq_nil hc)
    · rw [refItems_succ] at h
      exact itemStep_wf refLeaf_ok (ihR _ _ _) (ihI _ _ _) h

theorem reference_wf {n : Nat} {i rest : Str} {t : Token}
    (h : reference n i = .ok (t, rest)) : t.wfInner = true := (wf_aux n).1 i t rest h

theorem refItems_wf {n : Nat} {i rest : Str} {ts : List Token}
    (h : refItems n i = .ok (ts, rest)) : Token.wfInnerL ts = true := (wf_aux n).2 i ts rest h

theorem items_wf : ∀ {n : Nat} {i rest : Str} {ts : List Token},
    items n i = .ok (ts, rest) → Token.wfInnerL ts = true
  | 0, _, _, _, h => by cases h
  | n + 1, _, _, _, h =>
    itemStep_wf stringP_suffix reference_wf items_wf (items_succ n _ ▸ h)

/-- The final step of `parse_ref`: a single token stays, several become `combined`. -/
def pack : List Token → Token
  | [t] => t
  | ts => .combined ts

theorem pack_cases : ∀ (l : List Token), l ≠ [] →
    l = [pack l] ∨ (pack l = .combined l ∧ 2 ≤ l.length)
  | [], h => absurd rfl h
  | [_], _ => .inl rfl
  | _ :: _ :: _, _ => .inr ⟨rfl, Nat.le_add_left 2 _⟩

theorem parseRefF_of_items {n : Nat} {s : Str} {ts : List Token}
    (h : items n s = .ok (ts, [])) (hne : ts ≠ []) :
    parseRefF n s = .ok (pack (coalesce ts)) := by
  unfold parseRefF
  rw [h]
  cases ts with
  | nil => exact absurd rfl hne
  | cons a r =>
    simp only
    cases hc : coalesce (a :: r) with
    | nil => rfl
    | cons b r' =>
      cases r' with
      | nil => rfl
      | cons _ _ => rfl

theorem parseRefF_ok_inv {n : Nat} {s : Str} {t : Token} (h : parseRefF n s = .ok t) :
    ∃ ts, items n s = .ok (ts, []) ∧ ts ≠ [] ∧ t = pack (coalesce ts) := by
  unfold parseRefF at h
  split at h
  · cases h
  · cases h
  · next ts hne heq =>
    refine ⟨ts, heq, fun h0 => hne h0, ?_⟩
    unfold pack
    split at h
    · next hc => cases h; rw [hc]
    · next hn =>
      cases h
      split
      · next hc => exact (hn _ hc).elim
      · rfl
  · cases h

theorem wfTop_of_wfInner {t : Token} (h : t.wfInner = true) : t.wfTop = true := by
  cases t with
  | lit s => exact h
  | ref ps => exact h
  | combined ps => simp [Token.wfInner] at h

theorem parseRefF_wf {n : Nat} {s : Str} {t : Token} (h : parseRefF n s = .ok t) :
    t.wfTop = true := by
  obtain ⟨ts, hi, hne, rfl⟩ := parseRefF_ok_inv h
  have hw := wfInnerL_coalesce ts (items_wf hi)
  rcases pack_cases (coalesce ts) (fun h0 => hne (coalesce_eq_nil h0)) with hc | ⟨hc, hl⟩
  · rw [hc] at hw
    simp only [Token.wfInnerL, Bool.and_true] at hw
    exact wfTop_of_wfInner hw
  · rw [hc]
    simp only [Token.wfTop, Bool.and_eq_true, decide_eq_true_eq]
    exact ⟨⟨hl, noAdjLit_coalesce ts⟩, hw⟩

/-! ### Runs of ordinary characters in the item loops -/

theorem reference_plain_head {n : Nat} {c : Char} {r : Str} (h : c ≠ '$') :
    reference (n + 1) (c :: r) = .error .fail :=
  reference_not_open (startsWith_cons_ne h)

theorem reference_nil {n : Nat} : reference (n + 1) [] = .error .fail :=
  reference_not_open rfl

theorem items_run {n : Nat} {p rest : Str} (hne : p ≠ []) (hp : ∀ c ∈ p, c ≠ '$' ∧ c ≠ '\\')
    (hr : contentStep rest = none) :
    items (n + 2) (p ++ rest) = consTok (.lit p) (items (n + 1) rest) := by
  have hs := stringP_run_stop hne hp hr
  cases p with
  | nil => exact absurd rfl hne
  | cons c cs =>
    exact items_str (reference_plain_head (hp c List.mem_cons_self).1) hs

theorem refItems_run {n : Nat} {p rest : Str} (hne : p ≠ [])
    (hp : ∀ c ∈ p, c ≠ '$' ∧ c ≠ '\\' ∧ c ≠ '}') (hr : refStringStep rest = none) :
    refItems (n + 2) (p ++ rest) = consTok (.lit p) (refItems (n + 1) rest) := by
  have hs := refLeaf_run_stop hne hp hr
  cases p with
  | nil => exact absurd rfl hne
  | cons c cs =>
    rw [refItems_succ, List.cons_append, reference_plain_head (hp c List.mem_cons_self).1]
    exact itemStep_leaf hs

theorem items_nil {n : Nat} : items (n + 2) [] = .ok ([], []) :=
  items_stop reference_nil stringP_nil

theorem refItems_close {n : Nat} (r : Str) : refItems (n + 2) ('}' :: r) = .ok ([], '}' :: r) :=
  refItems_stop (reference_plain_head (by decide)) (by rw [refString, scan_stop (refStringStep_close r)])

/-! ### `containsMarker` and transfer to `Token.parse` -/

theorem containsMarker_iff (s : Str) :
    containsMarker s = true ↔
      ∃ pre post, s = pre ++ '$' :: '{' :: post ∨ s = pre ++ '$' :: '[' :: post := by
  fun_induction containsMarker s with
  | case1 => simp
  | case2 r => exact ⟨fun _ => ⟨[], r, .inl rfl⟩, fun _ => rfl⟩
  | case3 r => exact ⟨fun _ => ⟨[], r, .inr rfl⟩, fun _ => rfl⟩
  | case4 c cs h1 h2 ih =>
    rw [ih]
    constructor
    · rintro ⟨pre, post, h⟩
      exact ⟨c :: pre, post, h.imp (congrArg (c :: ·)) (congrArg (c :: ·))⟩
    · rintro ⟨pre, post, h⟩
      cases pre with
      | nil =>
        rcases h with h | h <;> cases h
        · exact (h1 post rfl rfl).elim
        · exact (h2 post rfl rfl).elim
      | cons d pre' =>
        simp only [List.cons_append, List.cons.injEq] at h
        exact ⟨pre', post, h.imp And.right And.right⟩

theorem containsMarker_open (pre post : Str) :
    containsMarker (pre ++ '$' :: '{' :: post) = true :=
  (containsMarker_iff _).2 ⟨pre, post, Or.inl rfl⟩

theorem containsMarker_inv (pre post : Str) :
    containsMarker (pre ++ '$' :: '[' :: post) = true :=
  (containsMarker_iff _).2 ⟨pre, post, Or.inr rfl⟩

theorem Token.parse_eq_map {s : Str} {n : Nat} (hm : containsMarker s = true)
    (h : parseRefF n s ≠ .error .fuel) :
    Token.parse s = ((parseRefF n s).map some).mapError (fun _ => Err.parse s) := by
  rw [← parseRefF_parseFuel h]
  unfold Token.parse
  rw [hm]
  cases hp : parseRefF (parseFuel s) s with
  | ok t => rfl
  | error e =>
    cases e with
    | fail => rfl
    | fuel => exact absurd hp (parseRefF_fuel_enough (by unfold parseFuel; omega))

theorem parse_ok_of {s : Str} {n : Nat} {t : Token} (hm : containsMarker s = true)
    (h : parseRefF n s = .ok t) : Token.parse s = .ok (some t) := by
  rw [Token.parse_eq_map hm (by rw [h]; exact fun h => nomatch h), h]; rfl

theorem parse_error_of {s : Str} {n : Nat} (hm : containsMarker s = true)
    (h : parseRefF n s = .error .fail) : Token.parse s = .error (.parse s) := by
  rw [Token.parse_eq_map hm (by rw [h]; exact fun h => nomatch h), h]; rfl

theorem parse_error_of_forall {s : Str} (hm : containsMarker s = true)
    (h : ∀ n t, parseRefF n s ≠ .ok t) : Token.parse s = .error (.parse s) := by
  cases hp : parseRefF (parseFuel s) s with
  | ok t => exact absurd hp (h _ t)
  | error e =>
    cases e with
    | fuel => exact absurd hp (parseRefF_fuel_enough (by unfold parseFuel; omega))
    | fail => exact parse_error_of hm hp

/-! ### A `${` that cannot be completed makes the whole parse fail -/

theorem items_stuck_open {r : Str}
    (hno : ∀ n t rest, reference n ('$' :: '{' :: r) ≠ .ok (t, rest)) :
    ∀ n ts rest, items n ('$' :: '{' :: r) = .ok (ts, rest) → rest = '$' :: '{' :: r := by
  intro n ts rest h
  cases n with
  | zero => cases h
  | succ n =>
    rw [items_succ] at h
    rcases itemStep_ok h with ⟨t, j, _, hr, _⟩ | ⟨_, s, j, _, hs, _⟩ | ⟨_, _, _, rfl⟩
    · exact absurd hr (hno n t j)
    · rw [stringP_open] at hs; cases hs
    · rfl

theorem items_run_stuck_open {pre r : Str} (hpre : ∀ c ∈ pre, c ≠ '$' ∧ c ≠ '\\')
    (hno : ∀ n t rest, reference n ('$' :: '{' :: r) ≠ .ok (t, rest)) :
    ∀ n ts rest, items n (pre ++ '$' :: '{' :: r) = .ok (ts, rest) → rest = '$' :: '{' :: r := by
  intro n ts rest h
  by_cases hne : pre = []
  · subst hne; exact items_stuck_open hno n ts rest h
  · match n, h with
    | 0, h => simp [items] at h
    | 1, h => rw [items_fuel (reference.eq_1 _)] at h; simp at h
    | n + 2, h =>
      rw [items_run hne hpre (contentStep_open r)] at h
      obtain ⟨ts', _, h'⟩ := consTok_eq_ok h
      exact items_stuck_open hno _ _ _ h'

theorem parse_stuck_open {pre r : Str} (hpre : ∀ c ∈ pre, c ≠ '$' ∧ c ≠ '\\')
    (hno : ∀ n t rest, reference n ('$' :: '{' :: r) ≠ .ok (t, rest)) :
    Token.parse (pre ++ '$' :: '{' :: r) = .error (.parse (pre ++ '$' :: '{' :: r)) := by
  apply parse_error_of_forall (containsMarker_open pre r)
  intro n t hp
  obtain ⟨ts, hi, _, _⟩ := parseRefF_ok_inv hp
  have := items_run_stuck_open hpre hno n ts [] hi
  cases this

theorem reference_needs_close {n : Nat} {r rest : Str} {t : Token}
    (h : reference n ('$' :: '{' :: r) = .ok (t, rest)) : '}' ∈ r := by
  obtain ⟨m, r', ts, _, hi, hri, _, _⟩ := reference_ok_inv h
  simp only [List.cons.injEq, true_and] at hi
  subst hi
  exact (refItems_consumes hri).1.subset List.mem_cons_self

theorem reference_empty_fails {n : Nat} {post rest : Str} {t : Token} :
    reference n ('$' :: '{' :: '}' :: post) ≠ .ok (t, rest) := by
  intro h
  obtain ⟨m, r', ts, _, hi, hri, hne, _⟩ := reference_ok_inv h
  simp only [List.cons.injEq, true_and] at hi
  subst hi
  match m, hri with
  | 0, hri => simp [refItems] at hri
  | 1, hri => rw [refItems_fuel (reference.eq_1 _)] at hri; simp at hri
  | m + 2, hri =>
    rw [refItems_close] at hri
    simp only [Except.ok.injEq, Prod.mk.injEq] at hri
    exact hne hri.1.symm

/-! ### A simple `${path}` -/

theorem refItems_simple {n : Nat} {path post : Str} (hne : path ≠ [])
    (hp : ∀ c ∈ path, c ≠ '$' ∧ c ≠ '\\' ∧ c ≠ '}') :
    refItems (n + 3) (path ++ '}' :: post) = .ok ([.lit path], '}' :: post) := by
  rw [refItems_run hne hp (refStringStep_close post), refItems_close]; rfl

theorem reference_simple {n : Nat} {path post : Str} (hne : path ≠ [])
    (hp : ∀ c ∈ path, c ≠ '$' ∧ c ≠ '\\' ∧ c ≠ '}') :
    reference (n + 4) ('$' :: '{' :: (path ++ '}' :: post)) = .ok (.ref [.lit path], post) := by
  rw [reference_of_refItems (refItems_simple hne hp) (by simp)]; rfl

/-! ### Literal-only token lists -/

theorem coalesce_lits : ∀ (ls : List Str), ls ≠ [] →
    coalesce (ls.map Token.lit) = [.lit ls.flatten]
  | [], h => absurd rfl h
  | [a], _ => by simp [coalesce]
  | a :: b :: r, _ => by
    show coalesce (.lit a :: (b :: r).map Token.lit) = _
    rw [coalesce, coalesce_lits (b :: r) (List.cons_ne_nil _ _)]
    simp

/-! ### Escapes next to live references -/

/-- `${a\}b}`: the escaped `}` does not close the reference. -/
theorem reference_escClose {n : Nat} {a b post : Str}
    (ha : ∀ c ∈ a, c ≠ '$' ∧ c ≠ '\\' ∧ c ≠ '}') (hb : ∀ c ∈ b, c ≠ '$' ∧ c ≠ '\\' ∧ c ≠ '}') :
    reference (n + 4) ('$' :: '{' :: (a ++ '\\' :: '}' :: (b ++ '}' :: post))) =
      .ok (.ref [.lit (a ++ '}' :: b)], post) := by
  have hs : refString (a ++ '\\' :: '}' :: (b ++ '}' :: post)) = (a ++ '}' :: b, '}' :: post) := by
    rw [refString_run ha, refString_escClose, refString_run_stop hb (refStringStep_close post)]
  have hr : reference (n + 2) (a ++ '\\' :: '}' :: (b ++ '}' :: post)) = .error .fail := by
    cases a with
    | nil => exact reference_plain_head (by decide)
    | cons c cs => exact reference_plain_head (ha c List.mem_cons_self).1
  have hi : refItems (n + 3) (a ++ '\\' :: '}' :: (b ++ '}' :: post)) =
      .ok ([.lit (a ++ '}' :: b)], '}' :: post) := by
    rw [refItems_str hr (by rw [hs]; simp), hs, refItems_close]; rfl
  rw [reference_of_refItems hi (by simp)]; rfl

/-! ### The top-level item loop at some fuel -/

/-- `items` reads the tokens `ts` off the front of `i` and stops at `rest`, at some fuel
(hence at any larger one, `items_mono_le`). -/
def Parses (i : Str) (ts : List Token) (rest : Str) : Prop := ∃ n, items n i = .ok (ts, rest)

theorem Parses.nil : Parses [] [] [] := ⟨2, items_nil⟩

theorem Parses.ref {i rest r : Str} {t : Token} {ts : List Token} {n : Nat}
    (ht : reference n i = .ok (t, rest)) : Parses rest ts r → Parses i (t :: ts) r
  | ⟨m, hm⟩ => by
    have h1 : reference (max n m) i = .ok (t, rest) := by
      rw [reference_mono_le (by rw [ht]; exact (nomatch ·)) (Nat.le_max_left n m), ht]
    have h2 : items (max n m) rest = .ok (ts, r) := by
      rw [items_mono_le (by rw [hm]; exact (nomatch ·)) (Nat.le_max_right n m), hm]
    exact ⟨max n m + 1, by rw [items_ref h1, h2]; rfl⟩

theorem Parses.leaf {i s rest r : Str} {ts : List Token}
    (hr : ∀ n, reference (n + 1) i = .error .fail) (hs : stringP i = some (s, rest)) :
    Parses rest ts r → Parses i (.lit s :: ts) r
  | ⟨m, hm⟩ =>
    ⟨m + 2, by rw [items_str (hr m) hs, items_mono (by rw [hm]; exact (nomatch ·)), hm]; rfl⟩

theorem Parses.optLit {p rest r : Str} {ts : List Token} (hp : ∀ c ∈ p, c ≠ '$' ∧ c ≠ '\\')
    (hr : contentStep rest = none) (h : Parses rest ts r) :
    Parses (p ++ rest) ((if p = [] then [] else [.lit p]) ++ ts) r := by
  cases p with
  | nil => exact h
  | cons c cs =>
    exact h.leaf (fun _ => reference_plain_head (hp c List.mem_cons_self).1)
      (stringP_run_stop (List.cons_ne_nil c cs) hp hr)

theorem Parses.tail {p : Str} (hp : ∀ c ∈ p, c ≠ '$' ∧ c ≠ '\\') :
    Parses p (if p = [] then [] else [.lit p]) [] := by
  have := Parses.nil.optLit hp contentStep_nil
  rwa [List.append_nil, List.append_nil] at this

/-- `\\` directly before `${` is one literal backslash, and the `${` after it is live. -/
theorem Parses.dblEsc {r rest : Str} {ts : List Token} (h : Parses ('$' :: '{' :: r) ts rest) :
    Parses ('\\' :: '\\' :: '$' :: '{' :: r) (.lit ['\\'] :: ts) rest :=
  h.leaf (fun _ => reference_plain_head (by decide)) (by simp [stringP_eq, startsWith])

theorem Parses.parse {s : Str} {ts : List Token} (h : Parses s ts [])
    (hm : containsMarker s = true) (hne : ts ≠ []) :
    Token.parse s = .ok (some (pack (coalesce ts))) :=
  h.elim fun _ hn => parse_ok_of hm (parseRefF_of_items hn hne)

end Reclass
