/-
  Lemmas for property C02 (deep merge of reference-free layers): the specification
  `Spec/DeepMerge` against the evaluator.  The accumulator of the evaluator's layer loop (a
  mapping whose members are reference-free values or layer lists of such, `Semi`) abstracts to
  a parameter tree (`abs`), and under it `Mapping::insert_impl`, `Mapping::merge`,
  `Value::merge` and the fold `flatVl` commute with `upsert`, `deepEsO`/`deepEs`, `deep` and
  `merged`.
-/
import Reclass.Spec.DeepMerge
import Reclass.Lemmas.TextL
import Reclass.Lemmas.MappingL
import Reclass.Props.C10
namespace Reclass
namespace DeepMerge
open Termination (sz szL szVl szEs StrFree StrFreeL StrFreeEs)

/-! ## 1. Plain data -/

theorem flagsOf_nil (ks : List Key) : flagsOf [] ks = [] := by
  simp [flagsOf]

mutual
theorem plain_all : ∀ (v : Value), Plain v → Closed v ∧ WF v ∧ Canon v ∧ StrFree v
  | .str _, h => False.elim h
  | .vl _, h => False.elim h
  | .null, _ => ⟨trivial, trivial, trivial, trivial⟩
  | .bool _, _ => ⟨trivial, trivial, trivial, trivial⟩
  | .num _, _ => ⟨trivial, trivial, trivial, trivial⟩
  | .lit _, _ => ⟨trivial, trivial, trivial, trivial⟩
  | .seq l, h => by
    simp only [Plain] at h
    simpa only [Closed, WF, Canon, StrFree] using plainL_all l h
  | .map es ck ok, h => by
    simp only [Plain] at h
    obtain ⟨h1, h2, rfl, rfl⟩ := h
    obtain ⟨a, b, c, d⟩ := plainEs_all es h1
    simp only [Closed, WF, Canon, StrFree, flagsOf_nil]
    exact ⟨a, ⟨b, h2⟩, ⟨c, trivial, trivial⟩, d⟩
theorem plainL_all : ∀ (l : List Value), PlainL l → ClosedL l ∧ WFL l ∧ CanonL l ∧ StrFreeL l
  | [], _ => ⟨trivial, trivial, trivial, trivial⟩
  | v :: vs, h => by
    simp only [PlainL] at h
    obtain ⟨a, b, c, d⟩ := plain_all v h.1
    obtain ⟨a', b', c', d'⟩ := plainL_all vs h.2
    simp only [ClosedL, WFL, CanonL, StrFreeL]
    exact ⟨⟨a, a'⟩, ⟨b, b'⟩, ⟨c, c'⟩, ⟨d, d'⟩⟩
theorem plainEs_all : ∀ (es : List (Key × Value)), PlainEs es →
    ClosedEs es ∧ WFEs es ∧ CanonEs es ∧ StrFreeEs es
  | [], _ => ⟨trivial, trivial, trivial, trivial⟩
  | (k, v) :: es, h => by
    simp only [PlainEs] at h
    obtain ⟨a, b, c, d⟩ := plain_all v h.2.1
    obtain ⟨a', b', c', d'⟩ := plainEs_all es h.2.2
    simp only [ClosedEs, WFEs, CanonEs, StrFreeEs]
    exact ⟨⟨a, a'⟩, ⟨h.1, b, b'⟩, ⟨c, c'⟩, ⟨d, d'⟩⟩
end

theorem plainL_append {a b : List Value} : PlainL (a ++ b) ↔ PlainL a ∧ PlainL b := by
  induction a with
  | nil => simp [PlainL]
  | cons v vs ih => simp only [List.cons_append, PlainL, ih, and_assoc]

theorem plainEs_append {a b : List (Key × Value)} : PlainEs (a ++ b) ↔ PlainEs a ∧ PlainEs b := by
  induction a with
  | nil => simp [PlainEs]
  | cons e es ih =>
    obtain ⟨k, v⟩ := e
    simp only [List.cons_append, PlainEs, ih, and_assoc]

theorem plain_not_vl {v : Value} (h : Plain v) : v.isVl = false := by
  cases v <;> first | rfl | simp [Plain] at h

theorem plain_layersOf {v : Value} (h : Plain v) : C10.layersOf v = [v] := by
  cases v <;> first | rfl | simp [Plain] at h

theorem interp_plain {v : Value} (h : Plain v) {n : Nat} (hn : size v ≤ n) (root : Mapping)
    (st : RState) : interp n root v st = .ok (v, st) := by
  obtain ⟨a, b, c, _⟩ := plain_all v h
  exact interp_canon v n root st a b c hn

theorem flat_plain {v : Value} (h : Plain v) (st : RState) : flat v st = .ok v := by
  obtain ⟨a, b, c, _⟩ := plain_all v h
  exact flat_canon v st a b c

/-! ### Reference-free data and `norm` -/

mutual
theorem norm_plain : ∀ (v : Value), Plain v → norm v = v
  | .str _, h => False.elim h
  | .vl _, h => False.elim h
  | .null, _ => rfl
  | .bool _, _ => rfl
  | .num _, _ => rfl
  | .lit _, _ => rfl
  | .seq l, h => by simp only [Plain] at h; simp only [norm, normL_plain l h]
  | .map es ck ok, h => by simp only [Plain] at h; simp only [norm, normEs_plain es h.1]
theorem normL_plain : ∀ (l : List Value), PlainL l → normL l = l
  | [], _ => rfl
  | v :: vs, h => by
    simp only [PlainL] at h; simp only [normL, norm_plain v h.1, normL_plain vs h.2]
theorem normEs_plain : ∀ (es : List (Key × Value)), PlainEs es → normEs es = es
  | [], _ => rfl
  | (k, v) :: es, h => by
    simp only [PlainEs] at h; simp only [normEs, norm_plain v h.2.1, normEs_plain es h.2.2]
end

theorem keys_normEs : ∀ (es : List (Key × Value)), keys (normEs es) = keys es
  | [] => rfl
  | (k, _) :: es => congrArg (k :: ·) (keys_normEs es)

mutual
theorem refFree_norm : ∀ (v : Value), RefFree v → Plain (norm v)
  | .str _, _ => trivial
  | .vl _, h => False.elim h
  | .null, _ => trivial
  | .bool _, _ => trivial
  | .num _, _ => trivial
  | .lit _, _ => trivial
  | .seq l, h => by
    simp only [RefFree] at h; simp only [norm, Plain]; exact refFreeL_normL l h
  | .map es ck ok, h => by
    simp only [RefFree] at h
    simp only [norm, Plain, keys_normEs]
    exact ⟨refFreeEs_normEs es h.1, h.2⟩
theorem refFreeL_normL : ∀ (l : List Value), RefFreeL l → PlainL (normL l)
  | [], _ => trivial
  | v :: vs, h => by
    simp only [RefFreeL] at h
    exact ⟨refFree_norm v h.1, refFreeL_normL vs h.2⟩
theorem refFreeEs_normEs : ∀ (es : List (Key × Value)), RefFreeEs es → PlainEs (normEs es)
  | [], _ => trivial
  | (k, v) :: es, h => by
    simp only [RefFreeEs] at h
    exact ⟨h.1, refFree_norm v h.2.1, refFreeEs_normEs es h.2.2⟩
end

mutual
theorem plain_refFree : ∀ (v : Value), Plain v → RefFree v
  | .str _, h => False.elim h
  | .vl _, h => False.elim h
  | .null, _ => trivial
  | .bool _, _ => trivial
  | .num _, _ => trivial
  | .lit _, _ => trivial
  | .seq l, h => by simp only [Plain] at h; simp only [RefFree]; exact plainL_refFreeL l h
  | .map es ck ok, h => by
    simp only [Plain] at h; simp only [RefFree]; exact ⟨plainEs_refFreeEs es h.1, h.2⟩
theorem plainL_refFreeL : ∀ (l : List Value), PlainL l → RefFreeL l
  | [], _ => trivial
  | v :: vs, h => by
    simp only [PlainL] at h; exact ⟨plain_refFree v h.1, plainL_refFreeL vs h.2⟩
theorem plainEs_refFreeEs : ∀ (es : List (Key × Value)), PlainEs es → RefFreeEs es
  | [], _ => trivial
  | (k, v) :: es, h => by
    simp only [PlainEs] at h; exact ⟨h.1, plain_refFree v h.2.1, plainEs_refFreeEs es h.2.2⟩
end

theorem refFreeL_append {a b : List Value} : RefFreeL (a ++ b) ↔ RefFreeL a ∧ RefFreeL b := by
  induction a with
  | nil => simp [RefFreeL]
  | cons v vs ih => simp only [List.cons_append, RefFreeL, ih, and_assoc]

theorem normL_append : ∀ (a b : List Value), normL (a ++ b) = normL a ++ normL b
  | [], _ => rfl
  | v :: a, b => by simp only [List.cons_append, normL, normL_append a b]

theorem refFree_layersOf {v : Value} (h : RefFree v) : C10.layersOf v = [v] := by
  cases v <;> first | rfl | simp [RefFree] at h

mutual
theorem sz_norm : ∀ (v : Value), sz (norm v) = sz v
  | .str _ => rfl
  | .vl l => by simp only [norm, sz, szVl_normL l]
  | .null => rfl
  | .bool _ => rfl
  | .num _ => rfl
  | .lit _ => rfl
  | .seq l => by simp only [norm, sz, szL_normL l]
  | .map es ck ok => by simp only [norm, sz, szEs_normEs es]
theorem szL_normL : ∀ (l : List Value), szL (normL l) = szL l
  | [] => rfl
  | v :: vs => by simp only [normL, szL, sz_norm v, szL_normL vs]
theorem szVl_normL : ∀ (l : List Value), szVl (normL l) = szVl l
  | [] => rfl
  | v :: vs => by simp only [normL, szVl, sz_norm v, szVl_normL vs]
theorem szEs_normEs : ∀ (es : List (Key × Value)), szEs (normEs es) = szEs es
  | [] => rfl
  | (k, v) :: es => by simp only [normEs, szEs, sz_norm v, szEs_normEs es]
end

mutual
theorem interp_refFree : ∀ (v : Value) (n : Nat) (root : Mapping) (st : RState), RefFree v →
    size v ≤ n → interp n root v st = .ok (norm v, st)
  | v, 0, _, _, _, hn => by have := size_pos v; omega
  | .vl l, _ + 1, _, _, h, _ => False.elim h
  | .str s, n + 1, root, st, h, _ => by
    have hp : Token.parse s = .ok none := by simp [Token.parse, show containsMarker s = false from h]
    rw [interp_str, hp]; rfl
  | .null, _ + 1, _, _, _, _ => rfl
  | .bool _, _ + 1, _, _, _, _ => rfl
  | .num _, _ + 1, _, _, _, _ => rfl
  | .lit _, _ + 1, _, _, _, _ => rfl
  | .seq l, n + 1, root, st, h, hn => by
    simp only [size] at hn
    rw [interp_seq, interpL_refFree l n root 0 st h (by omega)]; rfl
  | .map es ck ok, n + 1, root, st, h, hn => by
    obtain ⟨h1, h2, rfl, rfl⟩ := h
    simp only [size] at hn
    have := interpEs_refFree es n root st [] h1 (by simpa using h2) (by omega)
    rw [interp_map, this]; rfl
theorem interpL_refFree : ∀ (l : List Value) (n : Nat) (root : Mapping) (idx : Nat) (st : RState),
    RefFreeL l → sizeL l ≤ n → interpL n root l idx st = .ok (normL l)
  | l, 0, _, _, _, _, hn => by have := sizeL_pos l; omega
  | [], _ + 1, _, _, _, _, _ => rfl
  | v :: vs, n + 1, root, idx, st, h, hn => by
    simp only [sizeL] at hn
    simp only [interpL_cons, interp_refFree v n root _ h.1 (by omega),
      interpL_refFree vs n root (idx + 1) st h.2 (by omega), normL]
theorem interpEs_refFree : ∀ (es : List (Key × Value)) (n : Nat) (root : Mapping) (st : RState)
    (acc : List (Key × Value)), RefFreeEs es → (keys acc ++ keys es).Nodup → sizeEs es ≤ n →
    interpEs n root es [] [] st ⟨acc, [], []⟩ = .ok ⟨acc ++ normEs es, [], []⟩
  | es, 0, _, _, _, _, _, hn => by have := sizeEs_pos es; omega
  | [], _ + 1, _, _, acc, _, _, _ => by simp [interpEs_nil, normEs]
  | (k, v) :: rest, n + 1, root, st, acc, h, hnd, hn => by
    simp only [sizeEs] at hn
    obtain ⟨hins, -, hnd'⟩ := insertImpl_step (acc := ⟨acc, [], []⟩) (norm v) false false h.1 hnd
    simp only [interpEs_cons, interp_refFree v n root _ h.2.1 (by omega),
      flat_plain (refFree_norm v h.2.1), List.not_mem_nil, decide_false, hins, Bool.false_eq_true, if_false]
    rw [interpEs_refFree rest n root st _ h.2.2 hnd' (by omega)]
    simp [normEs]
end

/-! ## 2. Parameter trees -/

abbrev tkeys (ts : List (Key × Tree)) : List Key := ts.map Prod.fst

mutual
/-- Trees as `deep` builds them from plain layers: leaves hold plain non-mapping values, keys
are marker-free and distinct. -/
def PTree : Tree → Prop
  | .leaf v => Plain v ∧ v.isMap = false
  | .bad e => IsConflict e
  | .node ts => PTreeEs ts ∧ (tkeys ts).Nodup
def PTreeEs : List (Key × Tree) → Prop
  | [] => True
  | (k, t) :: ts => CleanKey k ∧ PTree t ∧ PTreeEs ts
end

@[simp] theorem isConflict_conflict (cur : List Str) (v : Value) (onto : Str) :
    IsConflict (conflict cur v onto) := ⟨_, _, _, rfl⟩

theorem IsConflict.ne_fuel {e : Err} (h : IsConflict e) : e ≠ .fuel := by
  obtain ⟨_, _, _, rfl⟩ := h; simp

theorem tlookup_none_iff {k : Key} {ts : List (Key × Tree)} : tlookup k ts = none ↔ k ∉ tkeys ts := by
  induction ts with
  | nil => simp [tlookup]
  | cons e ts ih =>
    obtain ⟨k', t⟩ := e
    simp only [tlookup, tkeys, List.map_cons, List.mem_cons, not_or]
    by_cases h : k' = k
    · simp [h]
    · simp only [h, if_false]
      rw [ih]
      exact ⟨fun h2 => ⟨fun e => h e.symm, h2⟩, fun h2 => h2.2⟩

theorem tkeys_upsert (k : Key) (f : Tree → Tree) (d : Tree) (ts : List (Key × Tree)) :
    tkeys (upsert k f d ts) = if k ∈ tkeys ts then tkeys ts else tkeys ts ++ [k] := by
  induction ts with
  | nil => simp [upsert, tkeys]
  | cons e ts ih =>
    obtain ⟨k', t⟩ := e
    simp only [upsert]
    by_cases h : k' = k
    · simp [h, tkeys]
    · have h' : ¬ k = k' := fun e => h e.symm
      simp only [h, if_false, tkeys, List.map_cons, List.mem_cons, h', false_or] at ih ⊢
      rw [ih]
      split <;> simp

theorem upsert_absent {k : Key} (f : Tree → Tree) (d : Tree) {ts : List (Key × Tree)}
    (h : k ∉ tkeys ts) : upsert k f d ts = ts ++ [(k, d)] := by
  induction ts with
  | nil => rfl
  | cons e ts ih =>
    obtain ⟨k', t⟩ := e
    simp only [tkeys, List.map_cons, List.mem_cons, not_or] at h
    have hk : ¬ k' = k := fun e => h.1 e.symm
    simp only [upsert, hk, if_false, List.cons_append, ih h.2]

theorem tkeys_upsert_nodup {k : Key} {f : Tree → Tree} {d : Tree} {ts : List (Key × Tree)}
    (h : (tkeys ts).Nodup) : (tkeys (upsert k f d ts)).Nodup := by
  rw [tkeys_upsert]
  split
  · exact h
  · exact nodup_append_singleton h ‹_›

theorem ptreeEs_upsert {k : Key} {f : Tree → Tree} {d : Tree} {ts : List (Key × Tree)}
    (hk : CleanKey k) (hf : ∀ t, PTree t → PTree (f t)) (hd : PTree d) (h : PTreeEs ts) :
    PTreeEs (upsert k f d ts) := by
  induction ts with
  | nil => simp only [upsert, PTreeEs]; exact ⟨hk, hd, trivial⟩
  | cons e ts ih =>
    obtain ⟨k', t⟩ := e
    simp only [PTreeEs] at h
    simp only [upsert]
    by_cases hkk : k' = k
    · simp only [hkk, if_true, PTreeEs]
      exact ⟨hk, hf t h.2.1, h.2.2⟩
    · simp only [hkk, if_false, PTreeEs]
      exact ⟨h.1, h.2.1, ih h.2.2⟩

theorem tkeys_ofValueEs : ∀ (es : List (Key × Value)), tkeys (ofValueEs es) = keys es
  | [] => rfl
  | (k, _) :: es => congrArg (k :: ·) (tkeys_ofValueEs es)

mutual
theorem ofValue_ptree : ∀ (v : Value), Plain v → PTree (ofValue v)
  | .str _, h => False.elim h
  | .vl _, h => False.elim h
  | .null, h => And.intro h rfl
  | .bool _, h => And.intro h rfl
  | .num _, h => And.intro h rfl
  | .lit _, h => And.intro h rfl
  | .seq _, h => And.intro h rfl
  | .map es ck ok, h => by
    simp only [Plain] at h
    simp only [ofValue, PTree, tkeys_ofValueEs]
    exact ⟨(ofValueEs_ptree es h.1).1, h.2.1⟩
theorem ofValueEs_ptree : ∀ (es : List (Key × Value)), PlainEs es →
    PTreeEs (ofValueEs es) ∧ tkeys (ofValueEs es) = keys es
  | [], _ => ⟨trivial, rfl⟩
  | (k, v) :: es, h => by
    simp only [PlainEs] at h
    exact ⟨⟨h.1, ofValue_ptree v h.2.1, (ofValueEs_ptree es h.2.2).1⟩, tkeys_ofValueEs _⟩
end

theorem deep_bad (cur : List Str) (e : Err) (v : Value) : deep cur (.bad e) v = .bad e := by
  cases v <;> rfl

theorem deep_leaf_null (cur : List Str) (v : Value) : deep cur (.leaf .null) v = ofValue v := by
  cases v <;> rfl

theorem foldl_deep_bad (cur : List Str) (e : Err) (vs : List Value) :
    vs.foldl (deep cur) (.bad e) = .bad e := by
  induction vs with
  | nil => rfl
  | cons v vs ih => simp only [List.foldl_cons, deep_bad, ih]

theorem mergeLeaf_ptree (cur : List Str) {a v : Value} (ha : Plain a) (hv : Plain v) :
    PTree (mergeLeaf cur a v) := by
  cases a with
  | null => exact ofValue_ptree v hv
  | seq l =>
    cases v with
    | seq l' => exact ⟨plainL_append.2 ⟨ha, hv⟩, rfl⟩
    | _ => exact isConflict_conflict _ _ _
  | str _ => exact False.elim ha
  | vl _ => exact False.elim ha
  | _ =>
    simp only [mergeLeaf]
    split
    · exact isConflict_conflict _ _ _
    · rename_i hc
      exact ⟨hv, by simp only [Bool.or_eq_true, not_or, Bool.not_eq_true] at hc; exact hc.1⟩

mutual
theorem deep_ptree : ∀ (v : Value) (cur : List Str) (t : Tree), PTree t → Plain v →
    PTree (deep cur t v)
  | v, cur, t, ht, hv => by
    cases t with
    | bad e => rw [deep_bad]; exact ht
    | leaf a =>
      cases v with
      | null => exact ⟨trivial, rfl⟩
      | _ => exact mergeLeaf_ptree cur ht.1 hv
    | node ts =>
      cases v with
      | null => exact ⟨trivial, rfl⟩
      | map es ck ok => exact deepEs_ptree es cur ts ht.1 ht.2 hv.1
      | _ => exact isConflict_conflict _ _ _
theorem deepEs_ptree : ∀ (es : List (Key × Value)) (cur : List Str) (ts : List (Key × Tree)),
    PTreeEs ts → (tkeys ts).Nodup → PlainEs es →
    PTreeEs (deepEs cur ts es) ∧ (tkeys (deepEs cur ts es)).Nodup
  | [], _, ts, h1, h2, _ => by simp only [deepEs]; exact ⟨h1, h2⟩
  | (k, v) :: es, cur, ts, h1, h2, h3 => by
    simp only [PlainEs] at h3
    simp only [deepEs]
    exact deepEs_ptree es cur _
      (ptreeEs_upsert h3.1 (fun t ht => deep_ptree v (cur ++ [k.display]) t ht h3.2.1)
        (ofValue_ptree v h3.2.1) h1)
      (tkeys_upsert_nodup h2) h3.2.2
end

theorem merged_ptree (cur : List Str) : ∀ (vs : List Value) (t : Tree), PTree t → PlainL vs →
    PTree (vs.foldl (deep cur) t)
  | [], t, ht, _ => ht
  | v :: vs, t, ht, h => by
    simp only [PlainL] at h
    simp only [List.foldl_cons]
    exact merged_ptree cur vs _ (deep_ptree v cur t ht h.1) h.2

theorem merged_ptree' (cur : List Str) {vs : List Value} (h : PlainL vs) : PTree (merged cur vs) :=
  merged_ptree cur vs _ ⟨trivial, rfl⟩ h

/-! ### How `resolve` and `resolveEs` succeed and fail -/

theorem resolve_node_ok {ts : List (Key × Tree)} {v : Value} :
    resolve (.node ts) = .ok v ↔ ∃ es, resolveEs ts = .ok es ∧ v = .map es [] [] := by
  simp only [resolve]
  cases resolveEs ts <;> simp [eq_comm]

theorem resolve_node_error {ts : List (Key × Tree)} {e : Err} :
    resolve (.node ts) = .error e ↔ resolveEs ts = .error e := by
  simp only [resolve]
  cases resolveEs ts <;> simp

theorem resolveEs_cons_ok {k : Key} {t : Tree} {ts : List (Key × Tree)} {es : List (Key × Value)} :
    resolveEs ((k, t) :: ts) = .ok es ↔
      ∃ v es', resolve t = .ok v ∧ resolveEs ts = .ok es' ∧ es = (k, v) :: es' := by
  simp only [resolveEs]
  cases resolve t <;> cases resolveEs ts <;> simp [eq_comm]

theorem resolveEs_cons_error {k : Key} {t : Tree} {ts : List (Key × Tree)} {e : Err} :
    resolveEs ((k, t) :: ts) = .error e ↔
      resolve t = .error e ∨ ∃ v, resolve t = .ok v ∧ resolveEs ts = .error e := by
  simp only [resolveEs]
  cases resolve t <;> cases resolveEs ts <;> simp

theorem resolveEs_keys : ∀ {ts : List (Key × Tree)} {es : List (Key × Value)},
    resolveEs ts = .ok es → keys es = tkeys ts
  | [], es, h => by cases h; rfl
  | (k, t) :: ts, es, h => by
    obtain ⟨v, es', -, h2, rfl⟩ := resolveEs_cons_ok.1 h
    simp only [keys, tkeys, List.map_cons, List.cons.injEq, true_and]
    exact resolveEs_keys h2

mutual
theorem resolve_plain : ∀ (t : Tree) (v : Value), PTree t → resolve t = .ok v → Plain v
  | .leaf a, v, ht, h => by cases h; exact ht.1
  | .bad e, v, _, h => by cases h
  | .node ts, v, ht, h => by
    obtain ⟨es, h1, rfl⟩ := resolve_node_ok.1 h
    exact ⟨resolveEs_plain ts es ht.1 h1, by rw [resolveEs_keys h1]; exact ht.2, rfl, rfl⟩
theorem resolveEs_plain : ∀ (ts : List (Key × Tree)) (es : List (Key × Value)), PTreeEs ts →
    resolveEs ts = .ok es → PlainEs es
  | [], es, _, h => by cases h; trivial
  | (k, t) :: ts, es, ht, h => by
    obtain ⟨v, es', h1, h2, rfl⟩ := resolveEs_cons_ok.1 h
    exact ⟨ht.1, resolve_plain t v ht.2.1 h1, resolveEs_plain ts es' ht.2.2 h2⟩
end

mutual
theorem resolve_ofValue : ∀ (v : Value), Plain v → resolve (ofValue v) = .ok v
  | .str _, h => False.elim h
  | .vl _, h => False.elim h
  | .null, _ => rfl
  | .bool _, _ => rfl
  | .num _, _ => rfl
  | .lit _, _ => rfl
  | .seq _, _ => rfl
  | .map es ck ok, h => by
    simp only [Plain] at h
    obtain ⟨h1, _, rfl, rfl⟩ := h
    simp only [ofValue, resolve, resolveEs_ofValueEs es h1]
theorem resolveEs_ofValueEs : ∀ (es : List (Key × Value)), PlainEs es →
    resolveEs (ofValueEs es) = .ok es
  | [], _ => rfl
  | (k, v) :: es, h => by
    simp only [PlainEs] at h
    simp only [ofValueEs, resolveEs, resolve_ofValue v h.2.1, resolveEs_ofValueEs es h.2.2]
end

mutual
theorem ofValue_resolve : ∀ (t : Tree) (v : Value), PTree t → resolve t = .ok v → ofValue v = t
  | .leaf a, v, ht, h => by
    cases h
    obtain ⟨_, hm⟩ := ht
    cases a <;> first | rfl | cases hm
  | .bad e, v, _, h => by cases h
  | .node ts, v, ht, h => by
    obtain ⟨es, h1, rfl⟩ := resolve_node_ok.1 h
    simp only [ofValue, ofValueEs_resolveEs ts es ht.1 h1]
theorem ofValueEs_resolveEs : ∀ (ts : List (Key × Tree)) (es : List (Key × Value)), PTreeEs ts →
    resolveEs ts = .ok es → ofValueEs es = ts
  | [], es, _, h => by cases h; rfl
  | (k, t) :: ts, es, ht, h => by
    obtain ⟨v, es', h1, h2, rfl⟩ := resolveEs_cons_ok.1 h
    simp only [ofValueEs, ofValue_resolve t v ht.2.1 h1, ofValueEs_resolveEs ts es' ht.2.2 h2]
end

/-! ## 3. The evaluator's accumulator as a tree -/

/-- A member of an accumulated mapping: a reference-free value (written once) or the layer list
of the reference-free values written to it. -/
def SemiV (v : Value) : Prop := RefFree v ∨ ∃ l, v = .vl l ∧ RefFreeL l

def SemiEs : List (Key × Value) → Prop
  | [] => True
  | (k, v) :: es => CleanKey k ∧ SemiV v ∧ SemiEs es

/-- What the layer loop holds after some plain layers: a plain non-mapping value, or a flag-free
mapping with clean distinct keys whose members are `SemiV`. -/
def Semi : Value → Prop
  | .map es ck ok => SemiEs es ∧ (keys es).Nodup ∧ ck = [] ∧ ok = []
  | v => Plain v

def stackTree (cur : List Str) (v : Value) : Tree := merged cur (normL (C10.layersOf v))

def absEs (cur : List Str) : List (Key × Value) → List (Key × Tree)
  | [] => []
  | (k, v) :: es => (k, stackTree (cur ++ [k.display]) v) :: absEs cur es

def abs (cur : List Str) : Value → Tree
  | .map es _ _ => .node (absEs cur es)
  | v => .leaf v

theorem semiV_of_plain {v : Value} (h : Plain v) : SemiV v := Or.inl (plain_refFree v h)

theorem semiV_layers {v : Value} (h : SemiV v) : RefFreeL (C10.layersOf v) := by
  rcases h with h | ⟨l, rfl, h⟩
  · rw [refFree_layersOf h]; exact ⟨h, trivial⟩
  · exact h

theorem plainEs_semiEs : ∀ {es : List (Key × Value)}, PlainEs es → SemiEs es
  | [], _ => trivial
  | (k, v) :: es, h => by
    simp only [PlainEs] at h
    exact ⟨h.1, semiV_of_plain h.2.1, plainEs_semiEs h.2.2⟩

theorem plain_semi {v : Value} (h : Plain v) : Semi v := by
  cases v with
  | map es ck ok =>
    simp only [Plain] at h
    exact ⟨plainEs_semiEs h.1, h.2⟩
  | _ => exact h

theorem semiEs_append {a b : List (Key × Value)} : SemiEs (a ++ b) ↔ SemiEs a ∧ SemiEs b := by
  induction a with
  | nil => simp [SemiEs]
  | cons e es ih =>
    obtain ⟨k, v⟩ := e
    simp only [List.cons_append, SemiEs, ih, and_assoc]

theorem semiEs_mem {es : List (Key × Value)} {k : Key} {v : Value} (h : SemiEs es)
    (hm : (k, v) ∈ es) : CleanKey k ∧ SemiV v := by
  induction es with
  | nil => simp at hm
  | cons e es ih =>
    obtain ⟨k', v'⟩ := e
    simp only [SemiEs] at h
    rcases List.mem_cons.1 hm with heq | hm'
    · simp only [Prod.mk.injEq] at heq; obtain ⟨rfl, rfl⟩ := heq; exact ⟨h.1, h.2.1⟩
    · exact ih h.2.2 hm'

theorem semiEs_lookup {es : List (Key × Value)} {k : Key} {v : Value} (h : SemiEs es)
    (hl : lookup k es = some v) : SemiV v :=
  (semiEs_mem h (lookup_mem_entry hl)).2

theorem semiEs_replaceVal {es : List (Key × Value)} {k : Key} {v : Value} (h : SemiEs es)
    (hv : SemiV v) : SemiEs (replaceVal k v es) := by
  induction es with
  | nil => trivial
  | cons e es ih =>
    obtain ⟨k', v'⟩ := e
    simp only [SemiEs] at h
    simp only [replaceVal]
    by_cases hk : k' = k
    · simp only [hk, if_true, SemiEs]; exact ⟨hk ▸ h.1, hv, h.2.2⟩
    · simp only [hk, if_false, SemiEs]; exact ⟨h.1, h.2.1, ih h.2.2⟩

theorem semiV_combine {old v : Value} (ho : SemiV old) (hv : RefFree v) :
    SemiV (combine old v) := by
  rw [C10.combine_is_vl]
  exact Or.inr ⟨_, rfl, refFreeL_append.2 ⟨semiV_layers ho, semiV_layers (Or.inl hv)⟩⟩

theorem stackTree_ptree (cur : List Str) {v : Value} (h : SemiV v) : PTree (stackTree cur v) :=
  merged_ptree' cur (refFreeL_normL _ (semiV_layers h))

theorem stackTree_refFree (cur : List Str) {v : Value} (h : RefFree v) :
    stackTree cur v = ofValue (norm v) := by
  simp only [stackTree, merged, refFree_layersOf h, normL, List.foldl_cons, List.foldl_nil,
    deep_leaf_null]

theorem stackTree_plain (cur : List Str) {v : Value} (h : Plain v) : stackTree cur v = ofValue v := by
  rw [stackTree_refFree cur (plain_refFree v h), norm_plain v h]

theorem stackTree_vl (cur : List Str) (l : List Value) :
    stackTree cur (.vl l) = merged cur (normL l) := rfl

theorem stackTree_combine (cur : List Str) {old v : Value} (hv : RefFree v) :
    stackTree cur (combine old v) = deep cur (stackTree cur old) (norm v) := by
  simp only [stackTree, merged, C10.combine_layers, refFree_layersOf hv, normL_append, normL,
    List.foldl_append, List.foldl_cons, List.foldl_nil]

theorem tkeys_absEs (cur : List Str) : ∀ (es : List (Key × Value)), tkeys (absEs cur es) = keys es
  | [] => rfl
  | (k, _) :: es => congrArg (k :: ·) (tkeys_absEs cur es)

theorem absEs_append (cur : List Str) : ∀ (a b : List (Key × Value)),
    absEs cur (a ++ b) = absEs cur a ++ absEs cur b
  | [], _ => rfl
  | (k, v) :: a, b => by simp only [List.cons_append, absEs, absEs_append cur a b]

theorem absEs_plain (cur : List Str) : ∀ {es : List (Key × Value)}, PlainEs es →
    absEs cur es = ofValueEs es
  | [], _ => rfl
  | (k, v) :: es, h => by
    simp only [PlainEs] at h
    simp only [absEs, ofValueEs, stackTree_plain _ h.2.1, absEs_plain cur h.2.2]

theorem abs_plain (cur : List Str) {v : Value} (h : Plain v) : abs cur v = ofValue v := by
  cases v with
  | map es ck ok =>
    simp only [Plain] at h
    simp only [abs, ofValue, absEs_plain cur h.1]
  | _ => rfl

theorem upsert_absEs_absent (cur : List Str) {k : Key} (f : Tree → Tree) (d : Tree)
    {es : List (Key × Value)} (h : lookup k es = none) :
    upsert k f d (absEs cur es) = absEs cur es ++ [(k, d)] :=
  upsert_absent f d (by rw [tkeys_absEs]; exact lookup_eq_none_iff.1 h)

theorem upsert_absEs_present (cur : List Str) {k : Key} (f : Tree → Tree) (d : Tree)
    {es : List (Key × Value)} {old new : Value} (h : lookup k es = some old)
    (hf : f (stackTree (cur ++ [k.display]) old) = stackTree (cur ++ [k.display]) new) :
    upsert k f d (absEs cur es) = absEs cur (replaceVal k new es) := by
  induction es with
  | nil => simp at h
  | cons e es ih =>
    obtain ⟨k', v'⟩ := e
    simp only [lookup] at h
    by_cases hk : k' = k
    · simp only [hk, if_true, Option.some.injEq] at h
      subst h; subst hk
      simp only [absEs, upsert, replaceVal, if_true, hf]
    · simp only [hk, if_false] at h
      simp only [absEs, upsert, replaceVal, hk, if_false, ih h]

/-- `Mapping::insert_impl` of a reference-free value under a clean key with `force_override`
`fo`, into a mapping without constant keys, is `upsert` (with the interpolated value): an
override replaces the member, otherwise the value is merged over it. -/
theorem insert_simO (cur : List Str) {es : List (Key × Value)} (okb : List Key) {k : Key}
    {v : Value} (fo : Bool) (hk : CleanKey k) (hes : SemiEs es) (hv : RefFree v) :
    ∃ es' ok', (⟨es, [], okb⟩ : Mapping).insertImpl k v false fo = .ok ⟨es', [], ok'⟩ ∧
      SemiEs es' ∧ (fo = false → ok' = okb) ∧
      absEs cur es' =
        upsert k (fun t => if fo = true then ofValue (norm v)
                           else deep (cur ++ [k.display]) t (norm v))
          (ofValue (norm v)) (absEs cur es) := by
  have hs : k.stripPrefix = (k, none) := hk
  cases hl : lookup k es with
  | none =>
    refine ⟨es ++ [(k, v)], if fo then setInsert k okb else okb, ?_, ?_, ?_, ?_⟩
    · rw [insertImpl_absent v false fo (hs ▸ hl)]
      simp [hs]
    · exact semiEs_append.2 ⟨hes, hk, Or.inl hv, trivial⟩
    · intro hfo; simp [hfo]
    · rw [upsert_absEs_absent cur _ _ hl, absEs_append]
      simp only [absEs, stackTree_refFree _ hv]
  | some old =>
    cases fo with
    | true =>
      refine ⟨replaceVal k v es, okb, ?_, ?_, fun _ => rfl, ?_⟩
      · rw [insertImpl_present (old := old) v false true (hs ▸ hl) (by simp)]
        simp [hs]
      · exact semiEs_replaceVal hes (Or.inl hv)
      · exact (upsert_absEs_present cur _ _ hl (by simp [stackTree_refFree _ hv])).symm
    | false =>
      refine ⟨replaceVal k (combine old v) es, okb, ?_, ?_, fun _ => rfl, ?_⟩
      · rw [insertImpl_present (old := old) v false false (hs ▸ hl) (by simp)]
        simp [hs]
      · exact semiEs_replaceVal hes (semiV_combine (semiEs_lookup hes hl) hv)
      · exact (upsert_absEs_present cur _ _ hl (by simp [stackTree_combine _ hv])).symm

/-- The entry loop of `Mapping::merge` for a reference-free layer with override keys `ook` is
`deepEsO`. -/
theorem mergeEntries_simO (cur : List Str) (ook : List Key) : ∀ (es' es : List (Key × Value))
    (okb : List Key), RefFreeEs es' → SemiEs es →
    ∃ es'' ok'', (⟨es, [], okb⟩ : Mapping).mergeEntries [] ook es' = .ok ⟨es'', [], ok''⟩ ∧
      SemiEs es'' ∧ (ook = [] → ok'' = okb) ∧
      absEs cur es'' = deepEsO cur ook (absEs cur es) (normEs es')
  | [], es, okb, _, hes => ⟨es, okb, rfl, hes, fun _ => rfl, rfl⟩
  | (k, v) :: rest, es, okb, h, hes => by
    obtain ⟨es1, ok1, a1, b1, o1, c1⟩ := insert_simO cur okb (decide (k ∈ ook)) h.1 hes h.2.1
    obtain ⟨es2, ok2, a2, b2, o2, c2⟩ := mergeEntries_simO cur ook rest es1 ok1 h.2.2 b1
    refine ⟨es2, ok2, ?_, b2, fun ho => (o2 ho).trans (o1 (by simp [ho])), ?_⟩
    · rw [mergeEntries_cons]
      simp only [List.not_mem_nil, decide_false, a1, a2]
    · rw [c2, c1]
      simp only [decide_eq_true_eq, normEs, deepEsO]

theorem deepEsO_nil (cur : List Str) : ∀ (es : List (Key × Value)) (ts : List (Key × Tree)),
    deepEsO cur [] ts es = deepEs cur ts es
  | [], _ => rfl
  | (k, v) :: es, ts => by
    simp only [deepEsO, deepEs, List.not_mem_nil, if_false]
    exact deepEsO_nil cur es _

theorem conflict_eq (st : RState) (v : Value) (onto : Str) :
    Err.mergeConflict st.curKey v.kind onto = conflict st.cur v onto := rfl

/-! ## 4. The evaluator settles on the specification -/

theorem interpVl_refFree (root : Mapping) (st : RState) : ∀ (l : List Value) (n : Nat) (r : Value),
    RefFreeL l → sizeL l ≤ n → interpVl n root l r st = flatVl (normL l) r st
  | l, 0, _, _, hn => by have := sizeL_pos l; omega
  | [], _ + 1, _, _, _ => rfl
  | v :: vs, n + 1, r, hl, hn => by
    simp only [sizeL] at hn
    rw [interpVl_cons, interp_refFree v n root st hl.1 (by omega)]
    simp only [normL, flatVl]
    cases mergeV r (norm v) st with
    | error e => rfl
    | ok r' => exact interpVl_refFree root st vs n r' hl.2 (by omega)

def Settles {α : Type} (f : Nat → R α) (r : R α) : Prop := ∃ N, ∀ n, N ≤ n → f n = r

theorem Settles.const {α : Type} (r : R α) : Settles (fun _ => r) r := ⟨0, fun _ _ => rfl⟩

theorem Settles.succ {α : Type} {f : Nat → R α} {r : R α} (h : Settles (fun n => f (n + 1)) r) :
    Settles f r := by
  obtain ⟨N, c⟩ := h
  refine ⟨N + 1, fun n hn => ?_⟩
  obtain ⟨m, rfl⟩ : ∃ m, n = m + 1 := ⟨n - 1, by omega⟩
  exact c m (by omega)

theorem Settles.bind1 {α γ : Type} {x : Nat → R α} {rx : R α} {g : Nat → α → R γ} {r : R γ}
    (hx : Settles x rx) (hg : Settles (fun n => bind1 rx (g n)) r) :
    Settles (fun n => bind1 (x n) (g n)) r := by
  obtain ⟨N1, c1⟩ := hx
  obtain ⟨N2, c2⟩ := hg
  exact ⟨N1 + N2, fun n hn => by dsimp only; rw [c1 n (by omega)]; exact c2 n (by omega)⟩

theorem Settles.bind2 {α β γ : Type} {x : Nat → R (α × β)} {rx : R (α × β)}
    {g : Nat → α → β → R γ} {r : R γ}
    (hx : Settles x rx) (hg : Settles (fun n => bind2 rx (g n)) r) :
    Settles (fun n => bind2 (x n) (g n)) r := by
  obtain ⟨N1, c1⟩ := hx
  obtain ⟨N2, c2⟩ := hg
  exact ⟨N1 + N2, fun n hn => by dsimp only; rw [c1 n (by omega)]; exact c2 n (by omega)⟩

def lift (st : RState) : Except Err Value → R (Value × RState)
  | .ok v => .ok (v, st)
  | .error e => .error e

theorem lift_ne_fuel_of {st : RState} {x : Except Err Value} (h : x ≠ .error .fuel) :
    lift st x ≠ .error .fuel := by
  cases x with
  | ok v => simp [lift]
  | error e => simpa [lift] using h

def outTree (cur : List Str) : R Value → Tree
  | .ok R => abs cur R
  | .error e => .bad e

theorem merge_maps_sim (cur : List Str) {es es' : List (Key × Value)} (hes : SemiEs es)
    (hnd : (keys es).Nodup) (hes' : PlainEs es') :
    ∃ es2, Mapping.merge ⟨es, [], []⟩ ⟨es', [], []⟩ = .ok ⟨es2, [], []⟩ ∧ SemiEs es2 ∧
      (keys es2).Nodup ∧ absEs cur es2 = deepEs cur (absEs cur es) es' := by
  obtain ⟨es2, ok2, a, b, o, c⟩ :=
    mergeEntries_simO cur [] es' es [] (plainEs_refFreeEs es' hes') hes
  cases o rfl
  rw [deepEsO_nil, normEs_plain es' hes'] at c
  exact ⟨es2, a, b, mergeEntries_keys_nodup _ _ _ hnd a, c⟩

/-- `Value::merge` is `deep`.  For an accumulator `R` of the layer loop and a plain layer
`x`: a successful merge is again an accumulator and abstracts to `deep (abs R) x`; a failed
merge means that `deep` poisons the parameter with that very error. -/
theorem mergeV_sim {R x : Value} (st : RState) (hR : Semi R) (hx : Plain x) :
    deep st.cur (abs st.cur R) x = outTree st.cur (mergeV R x st) ∧
    ∀ R', mergeV R x st = .ok R' → Semi R' := by
  by_cases hn : x = .null
  · subst hn
    rw [mergeV_null]
    exact ⟨by cases R <;> rfl, fun R' h => by cases h; trivial⟩
  rw [mergeV_of_not_vl (by cases x <;> first | rfl | exact absurd rfl hn) (plain_not_vl hx)]
  constructor
  · cases x with
    | map es' ck' ok' =>
      cases R with
      | null => exact (abs_plain _ hx).symm
      | map es ck ok =>
        obtain ⟨hes, hnd, rfl, rfl⟩ := hR
        simp only [Plain] at hx
        obtain ⟨hes', -, rfl, rfl⟩ := hx
        obtain ⟨es2, a, -, -, c⟩ := merge_maps_sim st.cur hes hnd hes'
        simp only [mergeNonVl, a, outTree, abs, deep, Mapping.toValue, c]
      | str _ => exact False.elim hR
      | vl _ => exact False.elim hR
      | _ => rfl
    | null => exact absurd rfl hn
    | str _ => exact False.elim hx
    | vl _ => exact False.elim hx
    | _ => cases R <;> first | rfl | exact False.elim hR
  · intro R' h
    rcases mergeNonVl_ok h with ⟨-, rfl⟩ | ⟨es, ck, ok, es', ck', ok', m, rfl, rfl, hm, rfl⟩ |
      ⟨s, s', rfl, rfl, rfl⟩ | ⟨-, -, -, rfl⟩
    · exact plain_semi hx
    · obtain ⟨hes, hnd, rfl, rfl⟩ := hR
      simp only [Plain] at hx
      obtain ⟨hes', -, rfl, rfl⟩ := hx
      obtain ⟨es2, a, b, c, -⟩ := merge_maps_sim st.cur hes hnd hes'
      rw [a] at hm; cases hm
      exact ⟨b, c, rfl, rfl⟩
    · exact plainL_append.2 ⟨hR, hx⟩
    · exact plain_semi hx

theorem flatVl_sim (st : RState) : ∀ (l : List Value) (R : Value), Semi R → PlainL l →
    l.foldl (deep st.cur) (abs st.cur R) = outTree st.cur (flatVl l R st) ∧
    ∀ R', flatVl l R st = .ok R' → Semi R'
  | [], R, hR, _ => ⟨rfl, fun R' h => by cases h; exact hR⟩
  | v :: rest, R, hR, hl => by
    obtain ⟨s1, s2⟩ := mergeV_sim st hR hl.1
    rw [List.foldl_cons, flatVl_consB, s1]
    cases h1 : mergeV R v st with
    | error e => exact ⟨foldl_deep_bad _ _ _, fun R' h => by cases h⟩
    | ok b => exact flatVl_sim st rest b (s2 b h1) hl.2

/-- `Mapping::interpolate` on an accumulated mapping, for any flag lists `ckl`, `okl` and any
accumulator, given that every member settles on the value of its tree: the entries are the
values of the trees; the flag lists only decide which flags the result carries. -/
theorem interpEs_settleG (root : Mapping) (st : RState) (ckl okl : List Key)
    {es : List (Key × Value)} (hes : SemiEs es)
    (hv : ∀ k v, (k, v) ∈ es → Settles (fun n => interp n root v (st.pushMappingKey k))
        (lift (st.pushMappingKey k) (resolve (stackTree (st.cur ++ [k.display]) v))))
    (acc : Mapping) (hnd : (keys acc.es ++ keys es).Nodup) :
    ∃ ck' ok', (ckl = [] → ck' = acc.ck) ∧ (okl = [] → ok' = acc.ok) ∧
      Settles (fun n => interpEs n root es ckl okl st acc)
        ((resolveEs (absEs st.cur es)).map (fun es' => ⟨acc.es ++ es', ck', ok'⟩)) := by
  induction es generalizing acc with
  | nil =>
    refine ⟨acc.ck, acc.ok, fun _ => rfl, fun _ => rfl, Settles.succ ?_⟩
    simpa [interpEs_nil, absEs, resolveEs, Except.map] using Settles.const (.ok acc)
  | cons e rest ih =>
    obtain ⟨k, v⟩ := e
    have hx := hv k v (by simp)
    cases hr : resolve (stackTree (st.cur ++ [k.display]) v) with
    | error e =>
      rw [hr] at hx
      refine ⟨acc.ck, acc.ok, fun _ => rfl, fun _ => rfl, Settles.succ ?_⟩
      simp only [interpEs_consB, absEs, resolveEs, hr]
      exact hx.bind2 (Settles.const _)
    | ok w =>
      rw [hr] at hx
      have hw : Plain w := resolve_plain _ _ (stackTree_ptree _ hes.2.1) hr
      obtain ⟨hins, -, hnd'⟩ := insertImpl_step w (decide (k ∈ ckl)) (decide (k ∈ okl)) hes.1 hnd
      obtain ⟨ck', ok', hc, ho, h2⟩ := ih hes.2.2
        (fun k' v' hm => hv k' v' (List.mem_cons_of_mem _ hm))
        ⟨acc.es ++ [(k, w)], if decide (k ∈ ckl) = true then setInsert k acc.ck else acc.ck,
          if decide (k ∈ okl) = true then setInsert k acc.ok else acc.ok⟩ hnd'
      refine ⟨ck', ok', fun h => by simpa [h] using hc h, fun h => by simpa [h] using ho h,
        Settles.succ ?_⟩
      simp only [interpEs_consB]
      refine hx.bind2 ?_
      simp only [lift, bind2, bind1, flat_plain hw, hins, absEs, resolveEs, hr]
      cases hrr : resolveEs (absEs st.cur rest) with
      | error e => rw [hrr] at h2; exact h2
      | ok es' => rw [hrr] at h2; simpa [Except.map] using h2

theorem interpEs_settle (root : Mapping) (st : RState) : ∀ (es acc : List (Key × Value)),
    SemiEs es → (keys acc ++ keys es).Nodup →
    (∀ k v, (k, v) ∈ es → Settles (fun n => interp n root v (st.pushMappingKey k))
        (lift (st.pushMappingKey k) (resolve (stackTree (st.cur ++ [k.display]) v)))) →
    Settles (fun n => interpEs n root es [] [] st ⟨acc, [], []⟩)
      (match resolveEs (absEs st.cur es) with
       | .error e => .error e
       | .ok es' => .ok ⟨acc ++ es', [], []⟩) := by
  intro es acc hes hnd hv
  obtain ⟨ck', ok', hc, ho, h⟩ := interpEs_settleG root st [] [] hes hv ⟨acc, [], []⟩ hnd
  cases hc rfl; cases ho rfl
  cases hr : resolveEs (absEs st.cur es) <;> rw [hr] at h <;> exact h

theorem settle_refFree (root : Mapping) {v : Value} (h : RefFree v) (st : RState) (cur : List Str) :
    Settles (fun n => interp n root v st) (lift st (resolve (stackTree cur v))) := by
  refine ⟨size v, fun n hn => ?_⟩
  rw [stackTree_refFree _ h, resolve_ofValue _ (refFree_norm v h)]
  exact interp_refFree v n root st h hn

/-- By induction on the size bound `b`:
(1) a layer list of reference-free values renders to `deepAll` of its (interpolated) layers;
(2) an accumulator of the layer loop renders to the value of its tree.
Each calls the other at a smaller bound.  (1) folds the layers and renders the accumulator by
(2): `Termination.flatVl_good` bounds its `sz` by `1 + szL l`, below `sz (.vl l) = 2 + szVl l`.
(2) renders a member that is a layer list by (1): `Termination.mem_szEs` puts a member's `sz`
at least 4 below that of the entries. -/
theorem settle_main (root : Mapping) : ∀ (b : Nat),
    (∀ l, RefFreeL l → sz (.vl l) ≤ b → ∀ st,
      Settles (fun n => interp n root (.vl l) st) (lift st (deepAll st.cur (normL l)))) ∧
    (∀ R, Semi R → sz R ≤ b → ∀ st,
      Settles (fun n => interp n root R st) (lift st (resolve (abs st.cur R)))) := by
  intro b
  induction b with
  | zero =>
    constructor
    · intro l _ hb; simp [sz] at hb
    · intro R _ hb; have := Termination.sz_pos R; omega
  | succ b ih =>
    obtain ⟨ih1, ih2⟩ := ih
    constructor
    · intro l hl hb st
      have hpl : PlainL (normL l) := refFreeL_normL l hl
      have hm : merged st.cur (normL l) = outTree st.cur (flatVl (normL l) .null st) :=
        (flatVl_sim st (normL l) .null trivial hpl).1
      have hx : Settles (fun n => interpVl n root l .null st) (flatVl (normL l) .null st) :=
        ⟨sizeL l, fun n hn => interpVl_refFree root st l n .null hl hn⟩
      apply Settles.succ
      simp only [interp_vlB, deepAll, hm]
      refine hx.bind1 ?_
      cases hf : flatVl (normL l) .null st with
      | error e => exact Settles.const _
      | ok R =>
        -- the merged accumulator is smaller than the layer list
        have hsz := (Termination.flatVl_good (normL l) .null st R hf (plainL_all _ hpl).2.2.2
          (by simp [StrFree])).2
        have hlen := Termination.szVl_eq l
        rw [szL_normL] at hsz
        simp only [sz] at hb hsz
        exact ih2 R ((flatVl_sim st (normL l) .null trivial hpl).2 R hf) (by omega) st
    · intro R hR hb st
      have plainCase : ∀ {R : Value}, Plain R →
          Settles (fun n => interp n root R st) (lift st (resolve (abs st.cur R))) := by
        intro R hP
        rw [abs_plain _ hP, resolve_ofValue _ hP]
        exact ⟨size R, fun n hn => interp_plain hP hn root st⟩
      cases R with
      | map es ck ok =>
        obtain ⟨hes, hnd, rfl, rfl⟩ := hR
        simp only [sz] at hb
        have hx := interpEs_settle root st es [] hes (by simpa using hnd)
          (fun k v hm => by
            rcases (semiEs_mem hes hm).2 with hP | ⟨l, rfl, hl⟩
            · exact settle_refFree root hP _ _
            · have := Termination.mem_szEs hm
              exact ih1 l hl (by omega) (st.pushMappingKey k))
        apply Settles.succ
        simp only [interp_mapB, abs, resolve]
        refine hx.bind1 ?_
        cases resolveEs (absEs st.cur es) <;> exact Settles.const _
      | _ => exact plainCase hR

theorem vl_settles (root : Mapping) {l : List Value} (hl : RefFreeL l) (st : RState) :
    Settles (fun n => interp n root (.vl l) st) (lift st (deepAll st.cur (normL l))) :=
  (settle_main root (sz (.vl l))).1 l hl (Nat.le_refl _) st

theorem semi_settles (root : Mapping) {R : Value} (hR : Semi R) (st : RState) :
    Settles (fun n => interp n root R st) (lift st (resolve (abs st.cur R))) :=
  (settle_main root (sz R)).2 R hR (Nat.le_refl _) st

theorem semiEs_settle (root : Mapping) (st : RState) {es : List (Key × Value)} (hes : SemiEs es)
    (k : Key) (v : Value) (hm : (k, v) ∈ es) :
    Settles (fun n => interp n root v (st.pushMappingKey k))
      (lift (st.pushMappingKey k) (resolve (stackTree (st.cur ++ [k.display]) v))) := by
  rcases (semiEs_mem hes hm).2 with hP | ⟨l, rfl, hl⟩
  · exact settle_refFree root hP _ _
  · exact vl_settles root hl (st.pushMappingKey k)

/-! ## 5. Only conflicts are ever reported -/

mutual
theorem resolve_error_conflict : ∀ (t : Tree) (e : Err), PTree t → resolve t = .error e →
    IsConflict e
  | .leaf a, e, _, h => by cases h
  | .bad e', e, ht, h => by cases h; exact ht
  | .node ts, e, ht, h => resolveEs_error_conflict ts e ht.1 (resolve_node_error.1 h)
theorem resolveEs_error_conflict : ∀ (ts : List (Key × Tree)) (e : Err), PTreeEs ts →
    resolveEs ts = .error e → IsConflict e
  | [], e, _, h => by cases h
  | (k, t) :: ts, e, ht, h => by
    rcases resolveEs_cons_error.1 h with h1 | ⟨_, _, h2⟩
    · exact resolve_error_conflict t e ht.2.1 h1
    · exact resolveEs_error_conflict ts e ht.2.2 h2
end

theorem absEs_ptree (cur : List Str) : ∀ {es : List (Key × Value)}, SemiEs es →
    PTreeEs (absEs cur es)
  | [], _ => trivial
  | (k, v) :: es, h => by
    simp only [SemiEs] at h
    exact ⟨h.1, stackTree_ptree _ h.2.1, absEs_ptree cur h.2.2⟩

theorem deepAll_plain (cur : List Str) {vs : List Value} (h : PlainL vs) {r : Value}
    (hr : deepAll cur vs = .ok r) : Plain r :=
  resolve_plain _ _ (merged_ptree' cur h) hr

theorem deepAll_error_conflict (cur : List Str) {vs : List Value} (h : PlainL vs) {e : Err}
    (he : deepAll cur vs = .error e) : IsConflict e :=
  resolve_error_conflict _ _ (merged_ptree' cur h) he

/-! ## 6. Whole parameter mappings -/

theorem plainLayer_iff (m : Mapping) :
    PlainLayer m ↔ PlainEs m.es ∧ (keys m.es).Nodup ∧ m.ck = [] ∧ m.ok = [] := Iff.rfl

theorem plainLayer_refFree {m : Mapping} (h : PlainLayer m) : RefFreeLayer m :=
  plain_refFree _ h

theorem normLayer_plain {m : Mapping} (h : PlainLayer m) : normLayer m = m := by
  obtain ⟨es, ck, ok⟩ := m
  simp only [normLayer, normEs_plain es ((plainLayer_iff _).1 h).1]

theorem overrideLayer_of_refFree {m : Mapping} (h : RefFreeLayer m) : OverrideLayer m :=
  ⟨h.1, h.2.1, h.2.2.1⟩

theorem mergeLayers_simO (cur : List Str) : ∀ (ms : List Mapping) (es : List (Key × Value))
    (okb : List Key), (∀ m ∈ ms, OverrideLayer m) → SemiEs es → (keys es).Nodup →
    ∃ es' ok', mergeLayers ⟨es, [], okb⟩ ms = .ok ⟨es', [], ok'⟩ ∧ SemiEs es' ∧ (keys es').Nodup ∧
      ((∀ m ∈ ms, m.ok = []) → ok' = okb) ∧
      absEs cur es' =
        (ms.map normLayer).foldl (fun ts m => deepEsO cur m.ok ts m.es) (absEs cur es)
  | [], es, okb, _, hes, hnd => ⟨es, okb, rfl, hes, hnd, fun _ => rfl, rfl⟩
  | m :: ms, es, okb, h, hes, hnd => by
    obtain ⟨hp, _, hck⟩ := h m (by simp)
    obtain ⟨es1, ok1, a1, b1, o1, c1⟩ := mergeEntries_simO cur m.ok m.es es okb hp hes
    have hm : Mapping.merge ⟨es, [], okb⟩ m = .ok ⟨es1, [], ok1⟩ := by
      rw [merge_eq, hck]; exact a1
    have hnd1 : (keys es1).Nodup := merge_keys_nodup (m := ⟨es, [], okb⟩) hnd hm
    obtain ⟨es2, ok2, a2, b2, n2, o2, c2⟩ := mergeLayers_simO cur ms es1 ok1
      (fun m' hm' => h m' (List.mem_cons_of_mem _ hm')) b1 hnd1
    refine ⟨es2, ok2, ?_, b2, n2, fun ho => ?_, ?_⟩
    · simp only [mergeLayers, hm, a2]
    · exact (o2 (fun m' hm' => ho m' (List.mem_cons_of_mem _ hm'))).trans (o1 (ho m (by simp)))
    · rw [c2, c1]; rfl

theorem foldl_deepEsO_flagFree (cur : List Str) : ∀ (ms : List Mapping) (ts : List (Key × Tree)),
    (∀ m ∈ ms, m.ok = []) →
    ms.foldl (fun ts m => deepEsO cur m.ok ts m.es) ts = ms.foldl (fun ts m => deepEs cur ts m.es) ts
  | [], _, _ => rfl
  | m :: ms, ts, h => by
    simp only [List.foldl_cons, h m (by simp), deepEsO_nil]
    exact foldl_deepEsO_flagFree cur ms _ (fun m' hm' => h m' (List.mem_cons_of_mem _ hm'))

theorem mergeLayers_sim (cur : List Str) (ms : List Mapping) (es : List (Key × Value))
    (h : ∀ m ∈ ms, RefFreeLayer m) (hes : SemiEs es) (hnd : (keys es).Nodup) :
    ∃ es', mergeLayers ⟨es, [], []⟩ ms = .ok ⟨es', [], []⟩ ∧ SemiEs es' ∧ (keys es').Nodup ∧
      absEs cur es' =
        (ms.map normLayer).foldl (fun ts m => deepEs cur ts m.es) (absEs cur es) := by
  obtain ⟨es', ok', a, b, c, o, d⟩ := mergeLayers_simO cur ms es []
    (fun m hm => overrideLayer_of_refFree (h m hm)) hes hnd
  cases o (fun m hm => (h m hm).2.2.2)
  refine ⟨es', a, b, c, d.trans (foldl_deepEsO_flagFree cur _ _ fun m hm => ?_)⟩
  obtain ⟨m0, hm0, rfl⟩ := List.mem_map.1 hm
  exact (h m0 hm0).2.2.2

theorem renderParams_settles {es : List (Key × Value)} (hes : SemiEs es) (hnd : (keys es).Nodup) :
    Settles (fun n => renderParamsF n ⟨es, [], []⟩)
      (match resolveEs (absEs [] es) with
       | .error e => .error e
       | .ok es' => .ok ⟨es', [], []⟩) := by
  obtain ⟨N, c⟩ := semi_settles ⟨es, [], []⟩ (R := .map es [] []) ⟨hes, hnd, rfl, rfl⟩ {}
  dsimp only at c
  refine ⟨N, fun n hn => ?_⟩
  dsimp only
  unfold renderParamsF renderedF
  simp only [Mapping.toValue]
  rw [c n hn]
  simp only [abs, resolve]
  cases hr : resolveEs (absEs [] es) with
  | error e => simp [lift]
  | ok es' =>
    have hp : Plain (.map es' [] []) :=
      resolve_plain (.node (absEs [] es)) _
        ⟨absEs_ptree [] hes, by rw [tkeys_absEs]; exact hnd⟩ (by simp [resolve, hr])
    simp [lift, flat_plain hp]

/-- Merging reference-free layers with `Mapping::merge` and rendering the result is `deepParams`
of the interpolated layers. -/
theorem params_settle {ms : List Mapping} (h : ∀ m ∈ ms, RefFreeLayer m) :
    Settles (fun n => (mergeLayers {} ms).bind (renderParamsF n))
      (deepParams (ms.map normLayer)) := by
  obtain ⟨es, a, b, c, d⟩ := mergeLayers_sim [] ms [] h trivial (by simp)
  have a' : mergeLayers {} ms = .ok ⟨es, [], []⟩ := a
  obtain ⟨N, cN⟩ := renderParams_settles b c
  dsimp only at cN
  refine ⟨N, fun n hn => ?_⟩
  dsimp only
  rw [a']
  show renderParamsF n ⟨es, [], []⟩ = _
  rw [cN n hn, d]
  rfl

/-! ## 7. The specification, key by key -/

theorem tlookup_upsert_self (k : Key) (f : Tree → Tree) (d : Tree) (ts : List (Key × Tree)) :
    tlookup k (upsert k f d ts) = some (match tlookup k ts with | some t => f t | none => d) := by
  induction ts with
  | nil => simp [upsert, tlookup]
  | cons e ts ih =>
    obtain ⟨k', t⟩ := e
    by_cases h : k' = k
    · simp [upsert, tlookup, h]
    · simp [upsert, tlookup, h, ih]

theorem tlookup_upsert_ne {k k1 : Key} (hne : k1 ≠ k) (f : Tree → Tree) (d : Tree)
    (ts : List (Key × Tree)) : tlookup k1 (upsert k f d ts) = tlookup k1 ts := by
  induction ts with
  | nil => simp [upsert, tlookup, Ne.symm hne]
  | cons e ts ih =>
    obtain ⟨k', t⟩ := e
    by_cases h : k' = k
    · subst h
      simp [upsert, tlookup, Ne.symm hne]
    · simp only [upsert, h, if_false, tlookup, ih]

theorem tlookup_deepEsO (cur : List Str) (ok : List Key) (k : Key) : ∀ (es : List (Key × Value))
    (ts : List (Key × Tree)), (keys es).Nodup →
    tlookup k (deepEsO cur ok ts es) =
      match lookup k es with
      | none => tlookup k ts
      | some v => some (if k ∈ ok then ofValue v
                        else deep (cur ++ [k.display]) ((tlookup k ts).getD (.leaf .null)) v)
  | [], ts, _ => rfl
  | (k', v') :: rest, ts, hnd => by
    simp only [keys, List.map_cons, List.nodup_cons] at hnd
    simp only [deepEsO]
    rw [tlookup_deepEsO cur ok k rest _ hnd.2]
    by_cases h : k' = k
    · subst h
      have hl : lookup k' rest = none := lookup_none_iff.2 hnd.1
      simp only [hl, lookup, if_true, tlookup_upsert_self]
      cases tlookup k' ts with
      | none => by_cases ho : k' ∈ ok <;> simp [ho, deep_leaf_null]
      | some t => rfl
    · have h' : k ≠ k' := fun e => h e.symm
      simp only [lookup, h, if_false, tlookup_upsert_ne h']

theorem tlookup_deepEs (cur : List Str) (k : Key) (es : List (Key × Value))
    (ts : List (Key × Tree)) (hnd : (keys es).Nodup) :
    tlookup k (deepEs cur ts es) =
      match lookup k es with
      | none => tlookup k ts
      | some v => some (deep (cur ++ [k.display]) ((tlookup k ts).getD (.leaf .null)) v) := by
  rw [← deepEsO_nil, tlookup_deepEsO cur [] k es ts hnd]
  cases lookup k es <;> simp

theorem addKey_eq (ks : List Key) (k : Key) :
    addKey ks k = if k ∈ ks then ks else ks ++ [k] := rfl

theorem tkeys_deepEsO (cur : List Str) (ok : List Key) : ∀ (es : List (Key × Value))
    (ts : List (Key × Tree)), tkeys (deepEsO cur ok ts es) = (keys es).foldl addKey (tkeys ts)
  | [], ts => rfl
  | (k, v) :: rest, ts => by
    simp only [deepEsO, keys, List.map_cons, List.foldl_cons]
    rw [tkeys_deepEsO cur ok rest, tkeys_upsert, addKey_eq]

theorem tkeys_deepEs (cur : List Str) (es : List (Key × Value)) (ts : List (Key × Tree)) :
    tkeys (deepEs cur ts es) = (keys es).foldl addKey (tkeys ts) := by
  rw [← deepEsO_nil, tkeys_deepEsO]

theorem tlookup_foldl_deepEs (cur : List Str) (k : Key) : ∀ (ms : List Mapping)
    (ts : List (Key × Tree)) (acc : List Value), (∀ m ∈ ms, (keys m.es).Nodup) →
    tlookup k ts = (if acc = [] then none else some (merged (cur ++ [k.display]) acc)) →
    tlookup k (ms.foldl (fun ts m => deepEs cur ts m.es) ts) =
      (if acc ++ valuesAt k ms = [] then none
       else some (merged (cur ++ [k.display]) (acc ++ valuesAt k ms)))
  | [], ts, acc, _, h0 => by simpa [valuesAt] using h0
  | m :: ms, ts, acc, h, h0 => by
    have hm := tlookup_deepEs cur k m.es ts (h m (by simp))
    have ih := tlookup_foldl_deepEs cur k ms (deepEs cur ts m.es)
    cases hlk : lookup k m.es with
    | none =>
      rw [hlk] at hm
      simp only [List.foldl_cons, valuesAt, hlk]
      exact ih acc (fun m' hm' => h m' (List.mem_cons_of_mem _ hm')) (hm.trans h0)
    | some v =>
      rw [hlk] at hm
      have := ih (acc ++ [v]) (fun m' hm' => h m' (List.mem_cons_of_mem _ hm'))
        (by rw [hm, h0]; by_cases ha : acc = [] <;> simp [ha, merged, deep_leaf_null])
      simpa [valuesAt, hlk] using this

theorem tlookup_mergedEs (cur : List Str) (k : Key) {ms : List Mapping}
    (h : ∀ m ∈ ms, (keys m.es).Nodup) :
    tlookup k (mergedEs cur ms) =
      if valuesAt k ms = [] then none else some (merged (cur ++ [k.display]) (valuesAt k ms)) :=
  tlookup_foldl_deepEs cur k ms [] [] h rfl

theorem tkeys_mergedEs (cur : List Str) (ms : List Mapping) :
    tkeys (mergedEs cur ms) = keyOrder ms :=
  (List.foldl_hom tkeys fun ts m => (tkeys_deepEs cur m.es ts).symm).symm

theorem resolveEs_lookup (k : Key) : ∀ {ts : List (Key × Tree)} {es : List (Key × Value)},
    resolveEs ts = .ok es →
    lookup k es = match tlookup k ts with
      | none => none
      | some t => (match resolve t with | .ok v => some v | .error _ => none)
  | [], es, h => by cases h; rfl
  | (k', t) :: ts, es, h => by
    obtain ⟨v, es', h1, h2, rfl⟩ := resolveEs_cons_ok.1 h
    by_cases hk : k' = k
    · simp [lookup, tlookup, hk, h1]
    · simp only [lookup, tlookup, hk, if_false]
      exact resolveEs_lookup k h2

theorem resolveEs_error_mem : ∀ {ts : List (Key × Tree)} {e : Err}, resolveEs ts = .error e →
    ∃ k t, (k, t) ∈ ts ∧ resolve t = .error e
  | [], e, h => by cases h
  | (k', t) :: ts, e, h => by
    rcases resolveEs_cons_error.1 h with h1 | ⟨_, _, h2⟩
    · exact ⟨k', t, List.mem_cons_self, h1⟩
    · obtain ⟨k, t', hm, hr⟩ := resolveEs_error_mem h2
      exact ⟨k, t', List.mem_cons_of_mem _ hm, hr⟩

theorem resolveEs_ok_iff : ∀ {ts : List (Key × Tree)},
    (∃ es, resolveEs ts = .ok es) ↔ ∀ k t, (k, t) ∈ ts → ∃ v, resolve t = .ok v
  | [] => by simp [resolveEs]
  | (k', t) :: ts => by
    constructor
    · rintro ⟨es, h⟩ k t' hm
      obtain ⟨v, es', h1, h2, rfl⟩ := resolveEs_cons_ok.1 h
      rcases List.mem_cons.1 hm with heq | hm'
      · cases heq; exact ⟨v, h1⟩
      · exact (resolveEs_ok_iff.1 ⟨es', h2⟩) k t' hm'
    · intro h
      obtain ⟨v, h1⟩ := h k' t List.mem_cons_self
      obtain ⟨es', h2⟩ := (resolveEs_ok_iff (ts := ts)).2
        (fun k t' hm => h k t' (List.mem_cons_of_mem _ hm))
      exact ⟨_, resolveEs_cons_ok.2 ⟨v, es', h1, h2, rfl⟩⟩

theorem tlookup_of_mem_nodup {k : Key} {t : Tree} {ts : List (Key × Tree)}
    (hn : (tkeys ts).Nodup) (h : (k, t) ∈ ts) : tlookup k ts = some t := by
  induction ts with
  | nil => simp at h
  | cons e ts ih =>
    obtain ⟨k', t'⟩ := e
    simp only [tkeys, List.map_cons, List.nodup_cons] at hn
    rcases List.mem_cons.1 h with heq | hmem
    · simp only [Prod.mk.injEq] at heq; obtain ⟨rfl, rfl⟩ := heq; simp [tlookup]
    · have hne : k' ≠ k := by
        intro e; subst e
        exact hn.1 (List.mem_map.2 ⟨(k', t), hmem, rfl⟩)
      simp only [tlookup, hne, if_false]
      exact ih hn.2 hmem

theorem tlookup_mem {k : Key} {t : Tree} {ts : List (Key × Tree)} (h : tlookup k ts = some t) :
    (k, t) ∈ ts := by
  induction ts with
  | nil => simp [tlookup] at h
  | cons e ts ih =>
    obtain ⟨k', t'⟩ := e
    simp only [tlookup] at h
    by_cases hk : k' = k
    · simp only [hk, if_true, Option.some.injEq] at h; subst h; subst hk; exact List.mem_cons_self
    · simp only [hk, if_false] at h; exact List.mem_cons_of_mem _ (ih h)

/-! ## 8. The binary reading, and mappings over mappings -/

theorem merged_append (cur : List Str) (vs ws : List Value) :
    merged cur (vs ++ ws) = ws.foldl (deep cur) (merged cur vs) :=
  List.foldl_append

theorem merged_snoc (cur : List Str) (vs : List Value) (v : Value) :
    merged cur (vs ++ [v]) = deep cur (merged cur vs) v :=
  merged_append cur vs [v]

theorem deepAll_snoc (cur : List Str) {vs : List Value} (h : PlainL vs) {a : Value}
    (ha : deepAll cur vs = .ok a) (v : Value) :
    deepAll cur (vs ++ [v]) = merge2 cur a v := by
  unfold deepAll merge2
  rw [merged_snoc, ofValue_resolve _ _ (merged_ptree' cur h) ha]

theorem ofValueEs_append : ∀ (a b : List (Key × Value)),
    ofValueEs (a ++ b) = ofValueEs a ++ ofValueEs b
  | [], _ => rfl
  | (k, v) :: a, b => by simp only [List.cons_append, ofValueEs, ofValueEs_append a b]

theorem deepEs_ofValueEs (cur : List Str) : ∀ (es a : List (Key × Value)),
    (keys a ++ keys es).Nodup → deepEs cur (ofValueEs a) es = ofValueEs (a ++ es)
  | [], a, _ => by simp [deepEs]
  | (k, v) :: es, a, h => by
    have hs := nodup_keys_step (a := keys a) (k := k) (b := keys es) h
    have : ofValueEs a ++ [(k, ofValue v)] = ofValueEs (a ++ [(k, v)]) := by
      rw [ofValueEs_append]; rfl
    rw [deepEs, upsert_absent _ _ (by rw [tkeys_ofValueEs]; exact hs.1), this,
      deepEs_ofValueEs cur es (a ++ [(k, v)]) (by simpa [keys] using hs.2)]
    simp

theorem foldl_deep_node (cur : List Str) (ms : List Mapping) (ts : List (Key × Tree)) :
    (ms.map Mapping.toValue).foldl (deep cur) (.node ts) =
      .node (ms.foldl (fun ts m => deepEs cur ts m.es) ts) := by
  rw [List.foldl_map]
  exact List.foldl_hom Tree.node fun _ _ => rfl

theorem merged_maps (cur : List Str) {m : Mapping} {ms : List Mapping}
    (h : (keys m.es).Nodup) :
    merged cur ((m :: ms).map Mapping.toValue) = .node (mergedEs cur (m :: ms)) := by
  have h0 : deepEs cur [] m.es = ofValueEs m.es := by
    simpa [ofValueEs] using deepEs_ofValueEs cur m.es [] (by simpa [keys] using h)
  simp only [merged, mergedEs, List.map_cons, List.foldl_cons, deep_leaf_null]
  rw [h0]
  simp only [Mapping.toValue, ofValue]
  exact foldl_deep_node cur ms _

/-! ## 9. Every reported conflict names a parameter at or below the merged one -/

mutual
/-- Every poisoned parameter inside the tree of the parameter at `cur` carries a conflict error
whose path is the path of that very position. -/
def BadBelow : List Str → Tree → Prop
  | _, .leaf _ => True
  | cur, .bad e => ConflictBelow cur e
  | cur, .node ts => BadBelowEs cur ts
def BadBelowEs : List Str → List (Key × Tree) → Prop
  | _, [] => True
  | cur, (k, t) :: ts => BadBelow (cur ++ [k.display]) t ∧ BadBelowEs cur ts
end

theorem conflictBelow_conflict (cur : List Str) (v : Value) (onto : Str) :
    ConflictBelow cur (conflict cur v onto) :=
  ⟨[], v.kind, onto, by simp only [conflict, List.append_nil]⟩

theorem ConflictBelow.up {cur : List Str} {x : Str} {e : Err} (h : ConflictBelow (cur ++ [x]) e) :
    ConflictBelow cur e := by
  obtain ⟨ks, o, t, rfl⟩ := h
  exact ⟨x :: ks, o, t, by simp⟩

theorem ConflictBelow.isConflict {cur : List Str} {e : Err} (h : ConflictBelow cur e) :
    IsConflict e := by
  obtain ⟨ks, o, t, rfl⟩ := h
  exact ⟨_, _, _, rfl⟩

mutual
theorem ofValue_bb : ∀ (v : Value) (cur : List Str), BadBelow cur (ofValue v)
  | .map es ck ok, cur => by simp only [ofValue, BadBelow]; exact ofValueEs_bb es cur
  | .null, _ => trivial
  | .bool _, _ => trivial
  | .num _, _ => trivial
  | .str _, _ => trivial
  | .lit _, _ => trivial
  | .seq _, _ => trivial
  | .vl _, _ => trivial
theorem ofValueEs_bb : ∀ (es : List (Key × Value)) (cur : List Str), BadBelowEs cur (ofValueEs es)
  | [], _ => trivial
  | (_, v) :: es, cur => ⟨ofValue_bb v _, ofValueEs_bb es cur⟩
end

theorem upsert_bb {cur : List Str} {k : Key} {f : Tree → Tree} {d : Tree} {ts : List (Key × Tree)}
    (hf : ∀ t, BadBelow (cur ++ [k.display]) t → BadBelow (cur ++ [k.display]) (f t))
    (hd : BadBelow (cur ++ [k.display]) d) (h : BadBelowEs cur ts) :
    BadBelowEs cur (upsert k f d ts) := by
  induction ts with
  | nil => exact ⟨hd, trivial⟩
  | cons e ts ih =>
    obtain ⟨k', t⟩ := e
    simp only [BadBelowEs] at h
    simp only [upsert]
    by_cases hk : k' = k
    · subst hk
      simp only [if_true, BadBelowEs]
      exact ⟨hf t h.1, h.2⟩
    · simp only [hk, if_false, BadBelowEs]
      exact ⟨h.1, ih h.2⟩

theorem mergeLeaf_bb (cur : List Str) (a v : Value) : BadBelow cur (mergeLeaf cur a v) := by
  unfold mergeLeaf
  split
  · exact ofValue_bb v cur
  · split
    · trivial
    · exact conflictBelow_conflict _ _ _
  · split
    · exact conflictBelow_conflict _ _ _
    · trivial

mutual
theorem deep_bb : ∀ (v : Value) (cur : List Str) (t : Tree), BadBelow cur t →
    BadBelow cur (deep cur t v)
  | v, cur, t, ht => by
    cases t with
    | bad e => rw [deep_bad]; exact ht
    | leaf a =>
      cases v with
      | null => trivial
      | _ => exact mergeLeaf_bb cur a _
    | node ts =>
      cases v with
      | null => trivial
      | map es ck ok => exact deepEs_bb es cur ts ht
      | _ => exact conflictBelow_conflict _ _ _
theorem deepEs_bb : ∀ (es : List (Key × Value)) (cur : List Str) (ts : List (Key × Tree)),
    BadBelowEs cur ts → BadBelowEs cur (deepEs cur ts es)
  | [], _, _, h => h
  | (k, v) :: es, cur, ts, h => by
    simp only [deepEs]
    exact deepEs_bb es cur _
      (upsert_bb (fun t ht => deep_bb v (cur ++ [k.display]) t ht) (ofValue_bb v _) h)
end

theorem merged_bb (cur : List Str) (vs : List Value) : BadBelow cur (merged cur vs) :=
  List.foldlRecOn vs (deep cur) trivial fun t ht v _ => deep_bb v cur t ht

theorem mergedEs_bb (cur : List Str) (ms : List Mapping) : BadBelowEs cur (mergedEs cur ms) :=
  List.foldlRecOn ms _ trivial fun ts h m _ => deepEs_bb m.es cur ts h

mutual
theorem resolve_bb : ∀ (t : Tree) (cur : List Str) (e : Err), BadBelow cur t →
    resolve t = .error e → ConflictBelow cur e
  | .leaf a, _, e, _, h => by cases h
  | .bad e', _, e, ht, h => by cases h; exact ht
  | .node ts, cur, e, ht, h => resolveEs_bb ts cur e ht (resolve_node_error.1 h)
theorem resolveEs_bb : ∀ (ts : List (Key × Tree)) (cur : List Str) (e : Err), BadBelowEs cur ts →
    resolveEs ts = .error e → ConflictBelow cur e
  | [], _, e, _, h => by cases h
  | (k, t) :: ts, cur, e, ht, h => by
    rcases resolveEs_cons_error.1 h with h1 | ⟨_, _, h2⟩
    · exact (resolve_bb t _ e ht.1 h1).up
    · exact resolveEs_bb ts cur e ht.2 h2
end

theorem deepAll_error_below (cur : List Str) (vs : List Value) {e : Err}
    (h : deepAll cur vs = .error e) : ConflictBelow cur e :=
  resolve_bb _ cur e (merged_bb cur vs) h

theorem deepParams_ok {ms : List Mapping} {out : Mapping} :
    deepParams ms = .ok out ↔ ∃ es, resolveEs (mergedParams ms) = .ok es ∧ out = ⟨es, [], []⟩ := by
  unfold deepParams
  cases resolveEs (mergedParams ms) <;> simp [eq_comm]

theorem deepParams_error {ms : List Mapping} {e : Err} :
    deepParams ms = .error e ↔ resolveEs (mergedParams ms) = .error e := by
  unfold deepParams
  cases resolveEs (mergedParams ms) <;> simp

theorem deepParams_error_below (ms : List Mapping) {e : Err} (h : deepParams ms = .error e) :
    ConflictBelow [] e :=
  resolveEs_bb _ [] e (mergedEs_bb [] ms) (deepParams_error.1 h)

/-! ## 10. `deepParams` key by key; finished runs -/

theorem addKey_nodup {ks : List Key} (k : Key) (h : ks.Nodup) : (addKey ks k).Nodup :=
  setInsert_nodup (k := k) h

theorem keyOrder_nodup (ms : List Mapping) : (keyOrder ms).Nodup :=
  List.foldlRecOn ms _ List.nodup_nil fun _ h m _ =>
    List.foldlRecOn (keys m.es) addKey h fun _ h k _ => addKey_nodup k h

theorem tkeys_mergedEs_nodup (cur : List Str) (ms : List Mapping) :
    (tkeys (mergedEs cur ms)).Nodup := by
  rw [tkeys_mergedEs]; exact keyOrder_nodup ms

theorem resolveEs_by_key {ts : List (Key × Tree)} {stack : Key → List Value} {cur : List Str}
    (hn : (tkeys ts).Nodup)
    (hl : ∀ k, tlookup k ts =
      if stack k = [] then none else some (merged (cur ++ [k.display]) (stack k))) :
    (∀ es, resolveEs ts = .ok es →
      keys es = tkeys ts ∧
      ∀ k, (stack k = [] → lookup k es = none) ∧
        (stack k ≠ [] →
          ∃ r, deepAll (cur ++ [k.display]) (stack k) = .ok r ∧ lookup k es = some r)) ∧
    (∀ e, resolveEs ts = .error e →
      ∃ k, stack k ≠ [] ∧ deepAll (cur ++ [k.display]) (stack k) = .error e) ∧
    ((∀ k, stack k ≠ [] → ∃ r, deepAll (cur ++ [k.display]) (stack k) = .ok r) →
      ∃ es, resolveEs ts = .ok es) := by
  have hmem : ∀ k t, (k, t) ∈ ts →
      stack k ≠ [] ∧ t = merged (cur ++ [k.display]) (stack k) := by
    intro k t hm
    have := tlookup_of_mem_nodup hn hm
    rw [hl k] at this
    by_cases hv : stack k = []
    · simp [hv] at this
    · simp only [hv, if_false, Option.some.injEq] at this
      exact ⟨hv, this.symm⟩
  refine ⟨?_, ?_, ?_⟩
  · intro es h1
    refine ⟨resolveEs_keys h1, fun k => ?_⟩
    have hlk := resolveEs_lookup k h1
    rw [hl k] at hlk
    constructor
    · intro hv; simpa [hv] using hlk
    · intro hv
      simp only [hv, if_false] at hlk
      have hm : (k, merged (cur ++ [k.display]) (stack k)) ∈ ts := by
        apply tlookup_mem; rw [hl k]; simp [hv]
      obtain ⟨r, hr⟩ := (resolveEs_ok_iff.1 ⟨es, h1⟩) k _ hm
      exact ⟨r, hr, by simpa [hr] using hlk⟩
  · intro e h1
    obtain ⟨k, t, hm, hr⟩ := resolveEs_error_mem h1
    obtain ⟨hv, rfl⟩ := hmem k t hm
    exact ⟨k, hv, hr⟩
  · intro hall
    apply resolveEs_ok_iff.2
    intro k t hm
    obtain ⟨hv, rfl⟩ := hmem k t hm
    exact hall k hv

theorem deepParams_by_key {ms : List Mapping} (h : ∀ m ∈ ms, (keys m.es).Nodup) :
    (∀ out, deepParams ms = .ok out →
      keys out.es = keyOrder ms ∧ out.ck = [] ∧ out.ok = [] ∧
      ∀ k, (valuesAt k ms = [] → lookup k out.es = none) ∧
        (valuesAt k ms ≠ [] →
          ∃ r, deepAll [k.display] (valuesAt k ms) = .ok r ∧ lookup k out.es = some r)) ∧
    (∀ e, deepParams ms = .error e →
      ∃ k, valuesAt k ms ≠ [] ∧ deepAll [k.display] (valuesAt k ms) = .error e) ∧
    ((∀ k, valuesAt k ms ≠ [] → ∃ r, deepAll [k.display] (valuesAt k ms) = .ok r) →
      ∃ out, deepParams ms = .ok out) := by
  obtain ⟨a, b, c⟩ := resolveEs_by_key (cur := []) (stack := fun k => valuesAt k ms)
    (tkeys_mergedEs_nodup [] ms) (fun k => tlookup_mergedEs [] k h)
  refine ⟨fun out ho => ?_, fun e he => b e (deepParams_error.1 he), fun hall => ?_⟩
  · obtain ⟨es, h1, rfl⟩ := deepParams_ok.1 ho
    obtain ⟨hk, hv⟩ := a es h1
    exact ⟨hk.trans (tkeys_mergedEs [] ms), rfl, rfl, hv⟩
  · obtain ⟨es, hes⟩ := c hall
    exact ⟨⟨es, [], []⟩, deepParams_ok.2 ⟨es, hes, rfl⟩⟩

theorem tlookup_ofValueEs (k : Key) : ∀ (es : List (Key × Value)),
    tlookup k (ofValueEs es) = (lookup k es).map ofValue
  | [] => rfl
  | (k', v) :: es => by
    by_cases h : k' = k
    · simp [ofValueEs, tlookup, lookup, h]
    · simp [ofValueEs, tlookup, lookup, h, tlookup_ofValueEs k es]

theorem plainEs_lookup {es : List (Key × Value)} {k : Key} {v : Value} (h : PlainEs es)
    (hl : lookup k es = some v) : Plain v := by
  induction es with
  | nil => simp at hl
  | cons e es ih =>
    obtain ⟨k', v'⟩ := e
    simp only [PlainEs] at h
    simp only [lookup] at hl
    by_cases hk : k' = k
    · simp only [hk, if_true, Option.some.injEq] at hl; subst hl; exact h.2.1
    · simp only [hk, if_false] at hl; exact ih h.2.2 hl

/-- A settled computation that is monotone in the fuel has its settled value at every amount
of fuel at which it finishes.  `post` is what is done with the result afterwards, for runs of
which only a part settles (`params_settleO`: the entries, not the flags). -/
theorem settles_finished {α β : Type} {f : Nat → R α} (post : R α → R β) {r : R β}
    (hs : Settles (fun n => post (f n)) r)
    (mono : ∀ n m, n ≤ m → f n ≠ .error .fuel → f m = f n) {n : Nat}
    (hn : f n ≠ .error .fuel) : post (f n) = r := by
  obtain ⟨N, c⟩ := hs
  rw [← mono n (max n N) (Nat.le_max_left _ _) hn]
  exact c _ (Nat.le_max_right _ _)

theorem bind_renderParams_mono (x : R Mapping) (n m : Nat) (hle : n ≤ m)
    (h : x.bind (renderParamsF n) ≠ .error .fuel) :
    x.bind (renderParamsF m) = x.bind (renderParamsF n) := by
  cases x with
  | error e => rfl
  | ok mp => exact renderParamsF_fuel_mono_le hle mp rfl h

theorem lookup_normEs (k : Key) : ∀ (es : List (Key × Value)),
    lookup k (normEs es) = (lookup k es).map norm
  | [] => rfl
  | (k', v) :: es => by
    by_cases h : k' = k
    · simp [normEs, lookup, h]
    · simp [normEs, lookup, h, lookup_normEs k es]

theorem valuesAt_norm (k : Key) : ∀ (ms : List Mapping),
    valuesAt k (ms.map normLayer) = normL (valuesAt k ms)
  | [] => rfl
  | m :: ms => by
    simp only [List.map_cons, valuesAt, normLayer, lookup_normEs]
    cases lookup k m.es with
    | none => simpa using valuesAt_norm k ms
    | some v => simp [normL, valuesAt_norm k ms]

theorem keyOrder_norm (ms : List Mapping) : keyOrder (ms.map normLayer) = keyOrder ms := by
  unfold keyOrder
  rw [List.foldl_map]
  simp only [normLayer, keys_normEs]

theorem nodup_map_normLayer {ms : List Mapping} (h : ∀ m ∈ ms, (keys m.es).Nodup) :
    ∀ m ∈ ms.map normLayer, (keys m.es).Nodup := by
  intro m hm
  obtain ⟨m0, hm0, rfl⟩ := List.mem_map.1 hm
  simp only [normLayer, keys_normEs]
  exact h m0 hm0

theorem lift_eq (st : RState) (x : Except Err Value) :
    lift st x = match x with
      | .ok r => .ok (r, st)
      | .error e => .error e := by
  cases x <;> rfl

/-! ## 11. Override keys of a layer (top level) -/

theorem renderParams_settlesC {es : List (Key × Value)} (ckl okl : List Key) (hes : SemiEs es)
    (hnd : (keys es).Nodup) :
    Settles (fun n => (renderParamsF n ⟨es, ckl, okl⟩).map Mapping.es)
      (resolveEs (absEs [] es)) := by
  obtain ⟨ck', ok', -, -, N, c⟩ := interpEs_settleG ⟨es, ckl, okl⟩ {} ckl okl hes
    (semiEs_settle _ _ hes) {} (by simpa using hnd)
  refine ⟨N + 1, fun n hn => ?_⟩
  obtain ⟨m, rfl⟩ : ∃ m, n = m + 1 := ⟨n - 1, by omega⟩
  have hc := c m (by omega)
  dsimp only at hc
  unfold renderParamsF renderedF
  simp only [Mapping.toValue]
  rw [interp_map, hc]
  cases hr : resolveEs (absEs [] es) with
  | error e => rfl
  | ok es' =>
    obtain ⟨a, b, c, _⟩ := plainEs_all es' (resolveEs_plain _ _ (absEs_ptree [] hes) hr)
    have hf := flatEs_canon es' ck' ok' {} {} a b c
      (by simpa [resolveEs_keys hr, tkeys_absEs] using hnd)
      (by simp) (by simp)
    simp [Except.map, Mapping.toValue, flat, hf]

theorem params_settleO {ms : List Mapping} (h : ∀ m ∈ ms, OverrideLayer m) :
    Settles (fun n => ((mergeLayers {} ms).bind (renderParamsF n)).map Mapping.es)
      (deepParamsO (ms.map normLayer)) := by
  obtain ⟨es, okl, a, b, c, -, d⟩ := mergeLayers_simO [] ms [] [] h trivial (by simp)
  have a' : mergeLayers {} ms = .ok ⟨es, [], okl⟩ := a
  obtain ⟨N, cN⟩ := renderParams_settlesC [] okl b c
  dsimp only at cN
  refine ⟨N, fun n hn => ?_⟩
  rw [a']
  show (renderParamsF n ⟨es, [], okl⟩).map Mapping.es = _
  rw [cN n hn, d]
  rfl

/-! ### The stack of a key with overrides -/

theorem tlookup_foldl_deepEsO (cur : List Str) (k : Key) : ∀ (ms : List Mapping)
    (ts : List (Key × Tree)) (acc : List Value), (∀ m ∈ ms, (keys m.es).Nodup) →
    tlookup k ts = (if acc = [] then none else some (merged (cur ++ [k.display]) acc)) →
    tlookup k (ms.foldl (fun ts m => deepEsO cur m.ok ts m.es) ts) =
      (if ms.foldl (stackStep k) acc = [] then none
       else some (merged (cur ++ [k.display]) (ms.foldl (stackStep k) acc)))
  | [], ts, acc, _, h0 => h0
  | m :: ms, ts, acc, h, h0 => by
    simp only [List.foldl_cons]
    apply tlookup_foldl_deepEsO cur k ms _ _ (fun m' hm' => h m' (List.mem_cons_of_mem _ hm'))
    rw [tlookup_deepEsO cur m.ok k m.es ts (h m (by simp)), h0]
    cases hlk : lookup k m.es with
    | none => simp only [stackStep, hlk]
    | some v =>
      by_cases ho : k ∈ m.ok
      · simp [stackStep, hlk, ho, merged, deep_leaf_null]
      · by_cases ha : acc = []
        · simp [stackStep, hlk, ho, ha, merged, deep_leaf_null]
        · simp [stackStep, hlk, ho, ha, merged_snoc]

/-- With override keys, the member `k` is the merge of the values written to `k` from the last
layer on that wrote it as `~k`. -/
theorem tlookup_mergedParamsO (k : Key) {ms : List Mapping} (h : ∀ m ∈ ms, (keys m.es).Nodup) :
    tlookup k (mergedParamsO ms) =
      if valuesAtO k ms = [] then none else some (merged [k.display] (valuesAtO k ms)) := by
  exact tlookup_foldl_deepEsO [] k ms [] [] h rfl

theorem tkeys_mergedParamsO (ms : List Mapping) : tkeys (mergedParamsO ms) = keyOrder ms :=
  (List.foldl_hom tkeys fun ts m => (tkeys_deepEsO [] m.ok m.es ts).symm).symm

theorem stackStep_norm (k : Key) (acc : List Value) (m : Mapping) :
    stackStep k (normL acc) (normLayer m) = normL (stackStep k acc m) := by
  simp only [stackStep, normLayer, lookup_normEs]
  cases lookup k m.es with
  | none => rfl
  | some v =>
    by_cases ho : k ∈ m.ok
    · simp [ho, normL]
    · simp [ho, normL_append, normL]

theorem valuesAtO_norm (k : Key) (ms : List Mapping) :
    valuesAtO k (ms.map normLayer) = normL (valuesAtO k ms) := by
  unfold valuesAtO
  rw [List.foldl_map]
  exact List.foldl_hom normL (init := []) fun acc m => stackStep_norm k acc m

theorem normL_eq_nil {l : List Value} : normL l = [] ↔ l = [] := by
  cases l <;> simp [normL]

end DeepMerge
end Reclass
