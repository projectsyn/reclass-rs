/-
  The deep-merge refinement with constant keys at the top level of the parameter layers (for
  `Props/C02c`): a stack of layers that merges *with* its constant flags also merges with
  these flags erased, to the same entries and override set (from
  `C09d.const_flags_only_reject`).
-/
import Reclass.Lemmas.DeepMergeL
import Reclass.Props.C09d
namespace Reclass
namespace DeepMerge

def eraseCkLayer (m : Mapping) : Mapping := { m with ck := [] }

theorem refFreeEs_clean : ∀ {es : List (Key × Value)}, RefFreeEs es →
    ∀ k v, (k, v) ∈ es → CleanKey k
  | [], _, _, _, hm => by simp at hm
  | (k', v') :: rest, h, k, v, hm => by
    simp only [RefFreeEs] at h
    rcases List.mem_cons.1 hm with heq | hm'
    · cases heq; exact h.1
    · exact refFreeEs_clean h.2.2 k v hm'

theorem mergeLayers_eraseCk : ∀ (ms : List Mapping) (b b' r : Mapping),
    (∀ m ∈ ms, RefFreeEs m.es) → C09d.SameData b b' → b'.ck = [] →
    mergeLayers b ms = .ok r →
    ∃ r', mergeLayers b' (ms.map eraseCkLayer) = .ok r' ∧ C09d.SameData r r' ∧ r'.ck = []
  | [], b, b', r, _, hd, hck, h => by
    cases h
    exact ⟨b', rfl, hd, hck⟩
  | m :: ms, b, b', r, hms, hd, hck, h => by
    rw [C09d.mergeLayers_cons] at h
    cases h1 : b.merge m with
    | error e => simp [h1] at h
    | ok b1 =>
      simp only [h1] at h
      have hclean : ∀ k v, (k, v) ∈ m.es → k.stripPrefix.2 ≠ some .const := by
        intro k v hm
        have hc : CleanKey k := refFreeEs_clean (hms m (by simp)) k v hm
        rw [show k.stripPrefix = (k, none) from hc]
        simp
      obtain ⟨n1, hn1, hd1, hck1⟩ := C09d.const_flags_only_reject b b' m b1 hd hck hclean h1
      obtain ⟨r', hr', hdr, hckr⟩ := mergeLayers_eraseCk ms b1 n1 r
        (fun m' hm' => hms m' (List.mem_cons_of_mem _ hm')) hd1 hck1 h
      refine ⟨r', ?_, hdr, hckr⟩
      simp only [List.map_cons, C09d.mergeLayers_cons]
      have : b'.merge (eraseCkLayer m) = .ok n1 := hn1
      rw [this]
      exact hr'

theorem mergedParamsO_eraseCk (ms : List Mapping) :
    mergedParamsO ((ms.map eraseCkLayer).map normLayer) = mergedParamsO (ms.map normLayer) := by
  unfold mergedParamsO
  rw [List.map_map, List.foldl_map, List.foldl_map]
  rfl

end DeepMerge
end Reclass
