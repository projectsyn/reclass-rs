/-
  Reclass.Lemmas.DecEq — decidable equality for the nested types of the model (`Value`, `Token`;
  the deriving handler does not cover nested inductives), for the records built on them and for the
  predicates of `Spec/Closed`, so that concrete runs of the model and concrete side conditions can
  be checked by kernel evaluation (`decide +kernel`).
-/
import Reclass.Spec.Closed
namespace Reclass

namespace Value
mutual
def beq : Value → Value → Bool
  | .null, .null => true
  | .bool a, .bool b => a == b
  | .num a, .num b => a == b
  | .str a, .str b => a == b
  | .lit a, .lit b => a == b
  | .map es ck ok, .map es' ck' ok' => beqEs es es' && ck == ck' && ok == ok'
  | .seq l, .seq l' => beqL l l'
  | .vl l, .vl l' => beqL l l'
  | _, _ => false
def beqL : List Value → List Value → Bool
  | [], [] => true
  | a :: l, b :: l' => beq a b && beqL l l'
  | _, _ => false
def beqEs : List (Key × Value) → List (Key × Value) → Bool
  | [], [] => true
  | (k, a) :: l, (k', b) :: l' => k == k' && beq a b && beqEs l l'
  | _, _ => false
end

mutual
theorem beq_iff : ∀ a b : Value, beq a b = true ↔ a = b
  | .null, b | .bool _, b | .num _, b | .str _, b | .lit _, b => by cases b <;> simp [beq]
  | .map es _ _, b => by cases b <;> simp [beq, beqEs_iff es, and_assoc]
  | .seq l, b => by cases b <;> simp [beq, beqL_iff l]
  | .vl l, b => by cases b <;> simp [beq, beqL_iff l]
theorem beqL_iff : ∀ a b : List Value, beqL a b = true ↔ a = b
  | [], b => by cases b <;> simp [beqL]
  | a :: l, b => by cases b <;> simp [beqL, beq_iff a, beqL_iff l]
theorem beqEs_iff : ∀ a b : List (Key × Value), beqEs a b = true ↔ a = b
  | [], b => by cases b <;> simp [beqEs]
  | (k, a) :: l, b => by
    cases b with
    | nil => simp [beqEs]
    | cons p _ => cases p; simp [beqEs, beq_iff a, beqEs_iff l, and_assoc]
end
end Value

instance : DecidableEq Value := fun a b => decidable_of_iff _ (Value.beq_iff a b)

namespace Token
mutual
def beq : Token → Token → Bool
  | .lit a, .lit b => a == b
  | .ref l, .ref l' => beqL l l'
  | .combined l, .combined l' => beqL l l'
  | _, _ => false
def beqL : List Token → List Token → Bool
  | [], [] => true
  | a :: l, b :: l' => beq a b && beqL l l'
  | _, _ => false
end

mutual
theorem beq_iff : ∀ a b : Token, beq a b = true ↔ a = b
  | .lit _, b => by cases b <;> simp [beq]
  | .ref l, b => by cases b <;> simp [beq, beqL_iff l]
  | .combined l, b => by cases b <;> simp [beq, beqL_iff l]
theorem beqL_iff : ∀ a b : List Token, beqL a b = true ↔ a = b
  | [], b => by cases b <;> simp [beqL]
  | a :: l, b => by cases b <;> simp [beqL, beq_iff a, beqL_iff l]
end
end Token

instance : DecidableEq Token := fun a b => decidable_of_iff _ (Token.beq_iff a b)

-- Written out (not derived): the derived instances compare through `h ▸ …`, which makes the
-- kernel compare the unevaluated sides once more after `decide` has evaluated them.
instance : DecidableEq Mapping := fun a b =>
  decidable_of_iff (a.es = b.es ∧ a.ck = b.ck ∧ a.ok = b.ok)
    ⟨fun ⟨h1, h2, h3⟩ => by cases a; cases b; simp_all, fun h => h ▸ ⟨rfl, rfl, rfl⟩⟩

instance : DecidableEq RState := fun a b =>
  decidable_of_iff (a.seen = b.seen ∧ a.depth = b.depth ∧ a.cur = b.cur)
    ⟨fun ⟨h1, h2, h3⟩ => by cases a; cases b; simp_all, fun h => h ▸ ⟨rfl, rfl, rfl⟩⟩

instance {ε α : Type} [DecidableEq ε] [DecidableEq α] : DecidableEq (Except ε α)
  | .ok a, .ok b => decidable_of_iff (a = b) ⟨congrArg _, Except.ok.inj⟩
  | .error a, .error b => decidable_of_iff (a = b) ⟨congrArg _, Except.error.inj⟩
  | .ok _, .error _ => isFalse nofun
  | .error _, .ok _ => isFalse nofun

namespace TextL
deriving instance DecidableEq for Err
end TextL

mutual
def decWF : (v : Value) → Decidable (WF v)
  | .map es _ _ => @instDecidableAnd _ _ (decWFEs es) (inferInstanceAs (Decidable (keys es).Nodup))
  | .seq l | .vl l => decWFL l
  | .null | .bool _ | .num _ | .str _ | .lit _ => isTrue trivial
def decWFL : (l : List Value) → Decidable (WFL l)
  | [] => isTrue trivial
  | v :: vs => @instDecidableAnd _ _ (decWF v) (decWFL vs)
def decWFEs : (es : List (Key × Value)) → Decidable (WFEs es)
  | [] => isTrue trivial
  | (_, v) :: es => @instDecidableAnd _ _ inferInstance (@instDecidableAnd _ _ (decWF v) (decWFEs es))
end

mutual
def decNoNest : (v : Value) → Decidable (NoNest v)
  | .map es _ _ => decNoNestEs es
  | .seq l => decNoNestL l
  | .vl l => @instDecidableAnd _ _ (decNoNestL l) (inferInstanceAs (Decidable (∀ x ∈ l, x.isVl = false)))
  | .null | .bool _ | .num _ | .str _ | .lit _ => isTrue trivial
def decNoNestL : (l : List Value) → Decidable (NoNestL l)
  | [] => isTrue trivial
  | v :: vs => @instDecidableAnd _ _ (decNoNest v) (decNoNestL vs)
def decNoNestEs : (es : List (Key × Value)) → Decidable (NoNestEs es)
  | [] => isTrue trivial
  | (_, v) :: es => @instDecidableAnd _ _ (decNoNest v) (decNoNestEs es)
end

mutual
def decClosed : (v : Value) → Decidable (Closed v)
  | .str _ | .vl _ => isFalse id
  | .map es _ _ => decClosedEs es
  | .seq l => decClosedL l
  | .null | .bool _ | .num _ | .lit _ => isTrue trivial
def decClosedL : (l : List Value) → Decidable (ClosedL l)
  | [] => isTrue trivial
  | v :: vs => @instDecidableAnd _ _ (decClosed v) (decClosedL vs)
def decClosedEs : (es : List (Key × Value)) → Decidable (ClosedEs es)
  | [] => isTrue trivial
  | (_, v) :: es => @instDecidableAnd _ _ (decClosed v) (decClosedEs es)
end

mutual
def decNoStr : (v : Value) → Decidable (NoStr v)
  | .str _ => isFalse id
  | .vl l | .seq l => decNoStrL l
  | .map es _ _ => decNoStrEs es
  | .null | .bool _ | .num _ | .lit _ => isTrue trivial
def decNoStrL : (l : List Value) → Decidable (NoStrL l)
  | [] => isTrue trivial
  | v :: vs => @instDecidableAnd _ _ (decNoStr v) (decNoStrL vs)
def decNoStrEs : (es : List (Key × Value)) → Decidable (NoStrEs es)
  | [] => isTrue trivial
  | (_, v) :: es => @instDecidableAnd _ _ (decNoStr v) (decNoStrEs es)
end

instance (v : Value) : Decidable (WF v) := decWF v
instance (v : Value) : Decidable (NoNest v) := decNoNest v
instance (v : Value) : Decidable (Closed v) := decClosed v
instance (v : Value) : Decidable (NoStr v) := decNoStr v

end Reclass
