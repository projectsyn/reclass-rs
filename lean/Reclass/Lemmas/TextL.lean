/-
  Reclass.Lemmas.TextL — for C05 (text of embedded references), C11 (the evaluator never panics)
  and C04 (a reference layer merges like the value it renders to): `jsonOf`/`rawString` are total
  on closed values; for a well-formed root without nested layer lists no evaluator function fails
  with a `.panic` (`NoRPInv` of `Lemmas/ClosedL`, the one site in `Token::resolve`, is a case of
  it); `mergeV`/`flatVl` use the resolve state only through `cur` (error messages); `interp`
  returns canonical flag lists (`Canon`) and is the syntactic identity on closed canonical values.
-/
import Reclass.Lemmas.ClosedL
import Reclass.Lemmas.Fuel
import Reclass.Lemmas.DecEq
namespace Reclass

/-! ## 1. JSON text and `raw_string` -/

namespace TextL
/-- For `decide +kernel` checks of concrete runs. -/
def errOf {α : Type} : R α → Option Err
  | .error e => some e
  | .ok _ => none
end TextL

mutual
theorem jsonOf_closed : ∀ (v : Value), Closed v → ∃ t, jsonOf v = .ok t := by
  intro v h
  cases v with
  | str _ => exact h.elim
  | vl _ => exact h.elim
  | seq l =>
    obtain ⟨xs, hx⟩ := jsonOfL_closed l h
    exact ⟨_, by rw [jsonOf_seqB, hx]; rfl⟩
  | map es _ _ =>
    obtain ⟨xs, hx⟩ := jsonOfEs_closed es [] h
    exact ⟨_, by rw [jsonOf_mapB, hx]; rfl⟩
  | bool b => cases b <;> exact ⟨_, rfl⟩
  | _ => exact ⟨_, rfl⟩
theorem jsonOfL_closed : ∀ (l : List Value), ClosedL l → ∃ t, jsonOfL l = .ok t := by
  intro l h
  cases l with
  | nil => exact ⟨_, rfl⟩
  | cons v vs =>
    obtain ⟨x, hx⟩ := jsonOf_closed v h.1
    obtain ⟨xs, hxs⟩ := jsonOfL_closed vs h.2
    exact ⟨_, by rw [jsonOfL_consB, hx, hxs]; rfl⟩
theorem jsonOfEs_closed : ∀ (es : List (Key × Value)) (acc : List (Str × Str)), ClosedEs es →
    ∃ t, jsonOfEs es acc = .ok t := by
  intro es acc h
  rcases es with _ | ⟨⟨k, v⟩, rest⟩
  · exact ⟨_, rfl⟩
  · obtain ⟨x, hx⟩ := jsonOf_closed v h.1
    obtain ⟨t, ht⟩ := jsonOfEs_closed rest (sortedInsert k.jsonKey x acc) h.2
    exact ⟨t, by rw [jsonOfEs_consB, hx]; exact ht⟩
end

theorem jsonOfL_error : ∀ (l : List Value) (e : Err), jsonOfL l = .error e → e = .panic .jsonVl :=
  jsonOfL_fails

theorem jsonOfEs_error : ∀ (es : List (Key × Value)) (acc : List (Str × Str)) (e : Err),
    jsonOfEs es acc = .error e → e = .panic .jsonVl :=
  jsonOfEs_fails

theorem rawString_closed (v : Value) (h : Closed v) : ∃ t, rawString v = .ok t := by
  cases v with
  | lit _ | null | num _ => exact ⟨_, rfl⟩
  | bool b => cases b <;> exact ⟨_, rfl⟩
  | map _ _ _ | seq _ => exact jsonOf_closed _ h
  | str _ | vl _ => exact h.elim

theorem rawString_noncontainer {v : Value} {e : Err} (hm : v.isMap = false) (hs : v.isSeq = false)
    (h : rawString v = .error e) :
    e = .rawStringOf "Value::String".toList ∨ e = .rawStringOf "Value::ValueList".toList := by
  cases v with
  | lit _ | null | num _ => cases h
  | bool b => cases b <;> cases h
  | map _ _ _ => cases hm
  | seq _ => cases hs
  | str _ => cases h; exact .inl rfl
  | vl _ => cases h; exact .inr rfl

/-! ## 2. No panic -/

def NotPanic (e : Err) : Prop := ∀ s, e ≠ .panic s

theorem splitColon_ne_nil (s : Str) : splitColon s ≠ [] := by
  induction s with
  | nil => simp [splitColon]
  | cons c cs ih =>
    simp only [splitColon]
    split
    · simp
    · split <;> simp

theorem parse_np {s : Str} {e : Err} (h : Token.parse s = .error e) : NotPanic e := by
  unfold Token.parse at h
  split at h
  · cases h
  · split at h
    · cases h
    · cases h; intro s hs; cases hs
    · cases h; intro s hs; cases hs

theorem insertImpl_np {m : Mapping} {k : Key} {v : Value} {fc fo : Bool} {e : Err}
    (h : m.insertImpl k v fc fo = .error e) : NotPanic e := by
  rw [insertImpl_error h]; intro s hs; cases hs

theorem mergeEntries_np {ock ook : List Key} {es : List (Key × Value)} {e : Err}
    {m : Mapping} (h : m.mergeEntries ock ook es = .error e) : NotPanic e := by
  obtain ⟨k, rfl⟩ := mergeEntries_error h; intro s hs; cases hs

theorem mergeNonVl_np {a b : Value} {st : RState} {e : Err} (ha : NotStrVl a)
    (h : mergeNonVl a b st = .error e) : NotPanic e := by
  rcases mergeNonVl_error h with ⟨es, ck, ok, es', ck', ok', -, -, hm⟩ | ⟨_, _, rfl⟩ | ⟨-, hs⟩ |
    ⟨-, hv⟩
  · exact mergeEntries_np (m := ⟨es, ck, ok⟩) hm
  · intro s hs; cases hs
  · cases ha.1.symm.trans hs
  · cases ha.2.symm.trans hv

theorem notStrVl_null : NotStrVl .null := ⟨rfl, rfl⟩

mutual
theorem flatVl_np : ∀ (l : List Value) (base : Value) (st : RState) (e : Err),
    LayersOK l → NotStrVl base → flatVl l base st = .error e → NotPanic e := by
  intro l base st e hl hb h
  cases l with
  | nil => rw [flatVl_nil] at h; cases h
  | cons v rest =>
    rw [flatVl_consB] at h
    rcases bind1_err.1 h with h1 | ⟨b, h1, h⟩
    · exact mergeV_np base v st e hl.1 hb h1
    · exact flatVl_np rest b st e hl.2 (mergeV_notStrVl base v st b hl.1 h1) h
theorem mergeV_np : ∀ (self other : Value) (st : RState) (e : Err),
    LayerOK other → NotStrVl self → mergeV self other st = .error e → NotPanic e := by
  intro self other st e ho hs h
  cases other with
  | null => rw [mergeV_null] at h; cases h
  | vl l =>
    rw [mergeV_vl] at h
    rcases bind1_err.1 h with h1 | ⟨o, -, h⟩
    · exact flatVl_np l .null st e ho notStrVl_null h1
    · exact mergeNonVl_np hs h
  | str _ => exact ho.elim
  | _ => rw [mergeV_of_not_vl rfl rfl] at h; exact mergeNonVl_np hs h
end

theorem strLoop_not_str : ∀ (n : Nat) (root : Mapping) (v : Value) (st : RState) (r : Value)
    (st' : RState), strLoop n root v st = .ok (r, st') → r.isStr = false := by
  intro n
  induction n with
  | zero => intro _ _ _ _ _ h; cases h
  | succ n ih =>
    intro root v st r st' h
    rw [strLoop_succB] at h
    split at h
    · obtain ⟨v1, st1, -, h⟩ := bind2_ok.1 h
      exact ih _ _ _ _ _ h
    · next hs => cases h; exact Bool.not_eq_true _ ▸ hs

theorem strLoop_wf : ∀ (n : Nat) (root : Mapping) (v : Value) (st : RState) (r : Value)
    (st' : RState), WF root.toValue → WF v → strLoop n root v st = .ok (r, st') → WF r := by
  intro n
  induction n with
  | zero => intro _ _ _ _ _ _ _ h; cases h
  | succ n ih =>
    intro root v st r st' hr hv h
    rw [strLoop_succB] at h
    split at h
    · obtain ⟨v1, st1, h1, h⟩ := bind2_ok.1 h
      exact ih _ _ _ _ _ hr ((interpInv n).interp _ _ _ _ _ hr hv h1).2 h
    · cases h; exact hv

structure NoPanicInv (n : Nat) : Prop where
  interp : ∀ (root : Mapping) (v : Value) (st : RState) (e : Err),
    WFN root.toValue → WFN v → interp n root v st = .error e → NotPanic e
  interpL : ∀ (root : Mapping) (l : List Value) (idx : Nat) (st : RState) (e : Err),
    WFN root.toValue → WFL l → NoNestL l → interpL n root l idx st = .error e → NotPanic e
  interpEs : ∀ (root : Mapping) (es : List (Key × Value)) (ck ok : List Key) (st : RState)
    (acc : Mapping) (e : Err), WFN root.toValue → WFEs es → NoNestEs es →
    interpEs n root es ck ok st acc = .error e → NotPanic e
  interpVl : ∀ (root : Mapping) (l : List Value) (r0 : Value) (st : RState) (e : Err),
    WFN root.toValue → WFL l → NoNestL l → NotStrVl r0 →
    interpVl n root l r0 st = .error e → NotPanic e
  tokRender : ∀ (root : Mapping) (t : Token) (st : RState) (e : Err),
    WFN root.toValue → tokRender n root t st = .error e → NotPanic e
  tokResolve : ∀ (root : Mapping) (t : Token) (st : RState) (e : Err),
    WFN root.toValue → tokResolve n root t st = .error e → NotPanic e
  descend : ∀ (root : Mapping) (v : Value) (segs : List Str) (st : RState) (path : Str) (e : Err),
    WFN root.toValue → WFN v → descend n root v segs st path = .error e → NotPanic e
  finalLoop : ∀ (root : Mapping) (v : Value) (st : RState) (e : Err),
    WFN root.toValue → WFN v → finalLoop n root v st = .error e → NotPanic e
  interpStrOrVl : ∀ (root : Mapping) (v : Value) (st : RState) (e : Err),
    WFN root.toValue → WFN v → interpStrOrVl n root v st = .error e → NotPanic e
  layersStr : ∀ (root : Mapping) (l : List Value) (st : RState) (e : Err),
    WFN root.toValue → WFL l → NoNestL l → layersStr n root l st = .error e → NotPanic e
  slice : ∀ (root : Mapping) (ts : List Token) (st : RState) (e : Err),
    WFN root.toValue → slice n root ts st = .error e → NotPanic e
  strLoop : ∀ (root : Mapping) (v : Value) (st : RState) (e : Err),
    WFN root.toValue → WFN v → strLoop n root v st = .error e → NotPanic e
  sliceFinish : ∀ (root : Mapping) (v : Value) (st : RState) (e : Err),
    WFN root.toValue → WFN v → sliceFinish n root v st = .error e → NotPanic e

theorem flat_after_interp_ok {n : Nat} {root : Mapping} {v v1 : Value} {st st1 st2 : RState}
    (hr : WF root.toValue) (hv : WF v) (h1 : Reclass.interp n root v st = .ok (v1, st1)) :
    ∃ v2, flat v1 st2 = .ok v2 ∧ Closed v2 ∧ WF v2 := by
  have a := (interpInv n).interp _ _ _ _ _ hr hv h1
  obtain ⟨v2, h2, _⟩ := flat_id v1 st2 a.1 a.2
  exact ⟨v2, h2, flat_closed v1 st2 v2 a.1 a.2 h2, flat_wf v1 st2 v2 a.2 h2⟩

theorem tokResolve_wfn {n : Nat} {root : Mapping} {t : Token} {st st' : RState} {v : Value}
    (hr : WFN root.toValue) (h : tokResolve n root t st = .ok (v, st')) : WFN v :=
  ⟨(interpInv n).tokResolve _ _ _ _ _ hr.1 h, (nnInv n).tokResolve _ _ _ _ _ hr h⟩

theorem noPanicInv : ∀ n, NoPanicInv n := by
  intro n
  induction n with
  | zero => constructor <;> intros <;> rename_i h <;> cases h <;> intro s hs <;> cases hs
  | succ n ih =>
    constructor
    case interp =>
      intro root v st e hr hv
      -- the goal `… = .error e → NotPanic e` is `ErrIn NotPanic …` at `e`; so in every case below
      refine (?_ : ErrIn NotPanic _) e
      cases v with
      | str s =>
        rw [interp_strB]
        refine .bind1 (fun _ => parse_np) fun o => ?_
        cases o with
        | none => exact .ok
        | some t => exact fun e => ih.tokRender _ _ _ e hr
      | map es ck ok =>
        rw [interp_mapB]
        exact .bind1 (fun e => ih.interpEs _ _ _ _ _ _ e hr hv.1.1 hv.2) fun _ => .ok
      | seq l =>
        rw [interp_seqB]
        exact .bind1 (fun e => ih.interpL _ _ _ _ e hr hv.1 hv.2) fun _ => .ok
      | vl l =>
        rw [interp_vlB]
        exact .bind1' (fun e => ih.interpVl _ _ _ _ e hr hv.1 hv.2.1 notStrVl_null) fun x h1 e =>
          ih.interp _ _ _ e hr ⟨(interpInv n).interpVl _ _ .null _ _ hr.1 hv.1 trivial h1,
            interpVl_noNest n _ _ .null _ _ hr hv.1 trivial h1⟩
      | _ => exact .ok
    case interpL =>
      intro root l idx st e hr hl hn
      refine (?_ : ErrIn NotPanic _) e
      cases l with
      | nil => exact .ok
      | cons v vs =>
        rw [interpL_consB]
        exact .bind2 (fun e => ih.interp _ _ _ e hr ⟨hl.1, hn.1⟩) fun _ _ =>
          .bind1 (fun e => ih.interpL _ _ _ _ e hr hl.2 hn.2) fun _ => .ok
    case interpEs =>
      intro root es ck ok st acc e hr hes hn
      refine (?_ : ErrIn NotPanic _) e
      rcases es with _ | ⟨⟨k, v⟩, rest⟩
      · exact .ok
      · rw [interpEs_consB]
        refine .bind2' (fun e => ih.interp _ _ _ e hr ⟨hes.2.1, hn.1⟩) fun v1 st1 h1 => ?_
        obtain ⟨v2, h2, -⟩ := flat_after_interp_ok (st2 := st1) hr.1 hes.2.1 h1
        rw [h2]
        exact .bind1 .ok fun _ => .bind1 (fun _ => insertImpl_np) fun _ e =>
          ih.interpEs _ _ _ _ _ _ e hr hes.2.2 hn.2
    case interpVl =>
      intro root l r0 st e hr hl hn h0
      refine (?_ : ErrIn NotPanic _) e
      cases l with
      | nil => exact .ok
      | cons v vs =>
        rw [interpVl_consB]
        refine .bind2' (fun e => ih.interp _ _ _ e hr ⟨hl.1, hn.1⟩) fun x st1 h1 => ?_
        have hx : LayerOK x := layerOK_of_notStrVl ((interp_tokRender_notStrVl n).1 _ _ _ _ _ h1)
        exact .bind1' (fun e => mergeV_np _ _ _ e hx h0) fun r1 h2 e =>
          ih.interpVl _ _ _ _ e hr hl.2 hn.2 (mergeV_notStrVl r0 x st1 r1 hx h2)
    case tokRender =>
      intro root t st e hr
      refine (?_ : ErrIn NotPanic _) e
      rw [tokRender_succB]
      refine .bind2' (fun e => ih.tokResolve _ _ _ e hr) fun v st1 h1 => ?_
      cases t with
      | ref parts => exact fun e => ih.interp _ _ _ e hr (tokResolve_wfn hr h1)
      | lit s | combined ts =>
        obtain ⟨s', rfl, -⟩ := tokResolve_nonref_lit (by intro p hp; cases hp) h1
        exact .bind1 .ok fun _ => .ok
    case tokResolve =>
      intro root t st e hr
      refine (?_ : ErrIn NotPanic _) e
      cases t with
      | lit s => exact .ok
      | combined ts =>
        rw [tokResolve_combinedB]
        exact .bind1 (fun e => ih.slice _ _ _ e hr) fun _ => .ok
      | ref parts =>
        rw [tokResolve_refB]
        split
        · exact .error (by intro s hs; cases hs)
        refine .bind1 (fun e => ih.slice _ _ _ e hr) fun path => ?_
        split
        · exact .error (by intro s hs; cases hs)
        split
        · next heq => exact absurd heq (splitColon_ne_nil _)
        split
        · exact .error (by intro s hs; cases hs)
        next _ k0 segs _ _ v0 h0 =>
        have hv0 : WFN v0 := wfn_lookup (ck := root.ck) (ok := root.ok) hr h0
        exact .bind2' (fun e => ih.descend _ _ _ _ _ e hr hv0) fun v st3 h3 e =>
          ih.finalLoop _ _ _ e hr ⟨(interpInv n).descend _ _ _ _ _ _ _ hr.1 hv0.1 h3,
            (nnInv n).descend _ _ _ _ _ _ _ hr hv0 h3⟩
    case descend =>
      intro root v segs st path e hr hv
      refine (?_ : ErrIn NotPanic _) e
      cases segs with
      | nil => exact .ok
      | cons key rest =>
        rw [descend_consB]
        refine .bind2' (fun e => ih.interpStrOrVl _ _ _ e hr hv) fun newv st1 h1 => ?_
        have hn : WFN newv := ⟨(interpInv n).interpStrOrVl _ _ _ _ _ hr.1 hv.1 h1,
          (nnInv n).interpStrOrVl _ _ _ _ _ hr hv h1⟩
        have hns := interpStrOrVl_notStrVl (noNest_inner hv.2) h1
        cases newv with
        | map es ck ok =>
          dsimp only
          split
          · exact .error (by intro s hs; cases hs)
          · next v' h2 => exact fun e => ih.descend _ _ _ _ _ e hr (wfn_lookup hn h2)
        | str _ => cases hns.1
        | vl _ => cases hns.2
        | _ => exact .error (by intro s hs; cases hs)
    case finalLoop =>
      intro root v st e hr hv
      refine (?_ : ErrIn NotPanic _) e
      rw [finalLoop_succB]
      split
      · exact .bind2' (fun e => ih.interp _ _ _ e hr hv) fun v1 st1 h1 e =>
          ih.finalLoop _ _ _ e hr (interp_wfn hr hv.1 h1)
      · exact .ok
    case interpStrOrVl =>
      intro root v st e hr hv
      refine (?_ : ErrIn NotPanic _) e
      cases v with
      | str s => exact fun e => ih.interp _ _ _ e hr hv
      | vl l =>
        rw [interpStrOrVl_vlB]
        exact .bind1' (fun e => ih.layersStr _ _ _ e hr hv.1 hv.2.1) fun i h1 =>
          .bind1 (fun e => flatVl_np _ _ _ e
            (layersStr_layersOK l n root st i (noNest_inner hv.2 l rfl) h1) notStrVl_null)
            fun _ => .ok
      | _ => exact .ok
    case layersStr =>
      intro root l st e hr hl hn
      refine (?_ : ErrIn NotPanic _) e
      cases l with
      | nil => exact .ok
      | cons v vs =>
        rw [layersStr_consB]
        refine .bind1 ?_ fun _ => .bind1 (fun e => ih.layersStr _ _ _ e hr hl.2 hn.2) fun _ => .ok
        split
        · exact .bind2 (fun e => ih.interp _ _ _ e hr ⟨hl.1, hn.1⟩) fun _ _ => .ok
        · exact .ok
    case slice =>
      intro root ts st e hr
      refine (?_ : ErrIn NotPanic _) e
      cases ts with
      | nil => exact .ok
      | cons t ts =>
        rw [slice_consB]
        refine .bind2' (fun e => ih.tokResolve _ _ _ e hr) fun v st1 h1 => ?_
        have hv := tokResolve_wfn hr h1
        refine .bind2' (fun e => ih.strLoop _ _ _ e hr hv) fun v' st2 h2 => ?_
        exact .bind1 (fun e => ih.sliceFinish _ _ _ e hr ((nnInv n).strLoop _ _ _ _ _ hr hv h2))
          fun _ => .bind1 (fun e => ih.slice _ _ _ e hr) fun _ => .ok
    case strLoop =>
      intro root v st e hr hv
      refine (?_ : ErrIn NotPanic _) e
      rw [strLoop_succB]
      split
      · exact .bind2' (fun e => ih.interp _ _ _ e hr hv) fun v1 st1 h1 e =>
          ih.strLoop _ _ _ e hr (interp_wfn hr hv.1 h1)
      · exact .ok
    case sliceFinish =>
      intro root v st e hr hv
      refine (?_ : ErrIn NotPanic _) e
      rw [sliceFinish_succB]
      split
      · refine .bind2' (fun e => ih.interp _ _ _ e hr hv) fun v1 st1 h1 => ?_
        obtain ⟨v2, h2, hc2, -⟩ := flat_after_interp_ok (st2 := st1) hr.1 hv.1 h1
        obtain ⟨t, ht⟩ := rawString_closed v2 hc2
        rw [h2]
        show ErrIn NotPanic (rawString v2)
        rw [ht]
        exact .ok
      · next hc =>
        simp only [Bool.or_eq_true, not_or, Bool.not_eq_true] at hc
        intro e h
        rcases rawString_noncontainer hc.1 hc.2 h with rfl | rfl <;> intro s hs <;> cases hs

/-! ### The `unreachable!` of `Token::resolve` is one of the panic sites -/

theorem NotPanic.notRP {e : Err} (h : NotPanic e) : NotRP e := h _

/-- The layer loop from any accumulator: a merge onto it may panic, but not at that site.  Not a
case of `noPanicInv`: `NoPanicInv.interpVl` asks for `NotStrVl r0`, `NoRPInv.interpVl` does not. -/
theorem interpVl_notRP : ∀ (n : Nat) (root : Mapping) (l : List Value) (r0 : Value) (st : RState)
    (e : Err), WFN root.toValue → WFL l → NoNestL l → interpVl n root l r0 st = .error e →
    NotRP e := by
  intro n
  induction n with
  | zero => intro _ _ _ _ _ _ _ _ h; cases h; intro hs; cases hs
  | succ n ih =>
    intro root l r0 st e hr hl hn
    refine (?_ : ErrIn NotRP _) e
    cases l with
    | nil => exact .ok
    | cons v vs =>
      rw [interpVl_consB]
      exact .bind2 (fun e h => ((noPanicInv n).interp _ _ _ e hr ⟨hl.1, hn.1⟩ h).notRP) fun x st1 =>
        .bind1 (mergeV_notRP _ _ _) fun r1 e => ih _ _ _ _ e hr hl.2 hn.2

theorem noRPInv (n : Nat) : NoRPInv n where
  interp _ _ _ _ hr hv h := ((noPanicInv n).interp _ _ _ _ hr hv h).notRP
  interpL _ _ _ _ _ hr hl hn h := ((noPanicInv n).interpL _ _ _ _ _ hr hl hn h).notRP
  interpEs _ _ _ _ _ _ _ hr hes hn h := ((noPanicInv n).interpEs _ _ _ _ _ _ _ hr hes hn h).notRP
  interpVl := interpVl_notRP n
  tokRender _ _ _ _ hr h := ((noPanicInv n).tokRender _ _ _ _ hr h).notRP
  tokResolve _ _ _ _ hr h := ((noPanicInv n).tokResolve _ _ _ _ hr h).notRP
  descend _ _ _ _ _ _ hr hv h := ((noPanicInv n).descend _ _ _ _ _ _ hr hv h).notRP
  finalLoop _ _ _ _ hr hv h := ((noPanicInv n).finalLoop _ _ _ _ hr hv h).notRP
  interpStrOrVl _ _ _ _ hr hv h := ((noPanicInv n).interpStrOrVl _ _ _ _ hr hv h).notRP
  layersStr _ _ _ _ hr hl hn h := ((noPanicInv n).layersStr _ _ _ _ hr hl hn h).notRP
  slice _ _ _ _ hr h := ((noPanicInv n).slice _ _ _ _ hr h).notRP
  strLoop _ _ _ _ hr hv h := ((noPanicInv n).strLoop _ _ _ _ hr hv h).notRP
  sliceFinish _ _ _ _ hr hv h := ((noPanicInv n).sliceFinish _ _ _ _ hr hv h).notRP

/-! ## 3. `Value::merge` looks at the resolve state only through `cur` -/

theorem bind1_congr {α γ : Type} {x : R α} {f g : α → R γ} (h : ∀ a, f a = g a) :
    bind1 x f = bind1 x g := by
  rw [funext h]

theorem bind2_congr {α β γ : Type} {x : R (α × β)} {f g : α → β → R γ} (h : ∀ a b, f a b = g a b) :
    bind2 x f = bind2 x g := by
  rw [funext fun a => funext (h a)]

theorem mergeNonVl_cur {a b : Value} {st st' : RState} (h : st.cur = st'.cur) :
    mergeNonVl a b st = mergeNonVl a b st' := by
  unfold mergeNonVl RState.curKey
  rw [h]

mutual
theorem flatVl_cur : ∀ (l : List Value) (base : Value) (st st' : RState), st.cur = st'.cur →
    flatVl l base st = flatVl l base st' := by
  intro l base st st' h
  cases l with
  | nil => rw [flatVl_nil, flatVl_nil]
  | cons v rest =>
    rw [flatVl_consB, flatVl_consB, mergeV_cur base v st st' h]
    exact bind1_congr fun b => flatVl_cur rest b st st' h
theorem mergeV_cur : ∀ (self other : Value) (st st' : RState), st.cur = st'.cur →
    mergeV self other st = mergeV self other st' := by
  intro self other st st' h
  cases other with
  | null => rw [mergeV_null, mergeV_null]
  | vl l =>
    rw [mergeV_vl, mergeV_vl, flatVl_cur l .null st st' h]
    exact bind1_congr fun o => mergeNonVl_cur h
  | _ => rw [mergeV_of_not_vl rfl rfl, mergeV_of_not_vl rfl rfl]; exact mergeNonVl_cur h
end

theorem mergeNonVl_ok_state {a b r : Value} {st st' : RState}
    (h : mergeNonVl a b st = .ok r) : mergeNonVl a b st' = .ok r := by
  rcases mergeNonVl_ok h with ⟨rfl, rfl⟩ | ⟨es, ck, ok, es', ck', ok', m, rfl, rfl, hm, rfl⟩ |
    ⟨s, s', rfl, rfl, rfl⟩ | ⟨ha, hm, hs, rfl⟩
  · rfl
  · simp only [mergeNonVl, hm]
  · rfl
  · rcases ha with ⟨x, rfl⟩ | ⟨x, rfl⟩ | ⟨x, rfl⟩ <;> simp [mergeNonVl, hm, hs]

mutual
theorem flatVl_ok_state : ∀ (l : List Value) (base : Value) (st st' : RState) (r : Value),
    flatVl l base st = .ok r → flatVl l base st' = .ok r := by
  intro l base st st' r h
  cases l with
  | nil => rw [flatVl_nil] at h ⊢; exact h
  | cons v rest =>
    rw [flatVl_consB] at h ⊢
    obtain ⟨b, h1, h⟩ := bind1_ok.1 h
    exact bind1_ok.2 ⟨b, mergeV_ok_state base v st st' b h1, flatVl_ok_state rest b st st' r h⟩
theorem mergeV_ok_state : ∀ (self other : Value) (st st' : RState) (r : Value),
    mergeV self other st = .ok r → mergeV self other st' = .ok r := by
  intro self other st st' r h
  cases other with
  | null => rw [mergeV_null] at h ⊢; exact h
  | vl l =>
    rw [mergeV_vl] at h ⊢
    obtain ⟨o, h1, h⟩ := bind1_ok.1 h
    exact bind1_ok.2 ⟨o, flatVl_ok_state l .null st st' o h1, mergeNonVl_ok_state h⟩
  | _ => rw [mergeV_of_not_vl rfl rfl] at h ⊢; exact mergeNonVl_ok_state h
end

/-- Fuel index: the loop starts with
`n + 1 + pre.length`, so the layer in question is interpolated with fuel `n`. -/
theorem interpVl_swap_layer {n : Nat} {root : Mapping} {st s1 s2 : RState} {a b x : Value}
    (ha : interp n root a st = .ok (x, s1)) (hb : interp n root b st = .ok (x, s2))
    (hc : s1.cur = s2.cur) (post : List Value) :
    ∀ (pre : List Value) (r0 : Value),
      interpVl (n + 1 + pre.length) root (pre ++ a :: post) r0 st =
      interpVl (n + 1 + pre.length) root (pre ++ b :: post) r0 st := by
  intro pre
  induction pre with
  | nil =>
    intro r0
    simp only [List.length_nil, Nat.add_zero, List.nil_append, interpVl, ha, hb,
      mergeV_cur r0 x s1 s2 hc]
  | cons p pre ih =>
    intro r0
    rw [show n + 1 + (p :: pre).length = (n + 1 + pre.length) + 1 from rfl,
      List.cons_append, List.cons_append, interpVl_consB, interpVl_consB]
    exact bind2_congr fun y s => bind1_congr fun r1 => ih r1

/-! ## 4. Canonical flag lists -/

/-- The members of `s` among `ks`, in the order of `ks`: the flag list `Mapping::interpolate` /
`Mapping::flattened` build (into a fresh mapping) from the flag set `s` of a mapping with
distinct keys `ks`. -/
def flagsOf (s ks : List Key) : List Key := ks.filter (fun k => decide (k ∈ s))

mutual
def Canon : Value → Prop
  | .map es ck ok => CanonEs es ∧ ck = flagsOf ck (keys es) ∧ ok = flagsOf ok (keys es)
  | .seq l => CanonL l
  | .vl l => CanonL l
  | _ => True
def CanonL : List Value → Prop
  | [] => True
  | v :: vs => Canon v ∧ CanonL vs
def CanonEs : List (Key × Value) → Prop
  | [] => True
  | (_, v) :: es => Canon v ∧ CanonEs es
end

theorem canonEs_append {es : List (Key × Value)} {k : Key} {v : Value} :
    CanonEs (es ++ [(k, v)]) ↔ CanonEs es ∧ Canon v := by
  induction es with
  | nil => simp [CanonEs]
  | cons e es ih =>
    obtain ⟨k', v'⟩ := e
    simp only [List.cons_append, CanonEs, ih, and_assoc]

theorem flagsOf_idem (s ks : List Key) : flagsOf (flagsOf s ks) ks = flagsOf s ks := by
  unfold flagsOf
  apply List.filter_congr
  intro x hx
  simp [List.mem_filter, hx]

theorem flag_append {k : Key} {s acc : List Key} (rest : List Key) (hk : k ∉ acc) :
    (if decide (k ∈ s) = true then setInsert k acc else acc) ++ flagsOf s rest =
      acc ++ flagsOf s (k :: rest) := by
  by_cases h : k ∈ s
  · simp [h, setInsert, hk, flagsOf]
  · simp [h, flagsOf]

theorem flag_subset {k : Key} {s acc : List Key} {es : List (Key × Value)} {v : Value}
    (h : ∀ x ∈ acc, x ∈ keys es) :
    ∀ x ∈ (if decide (k ∈ s) = true then setInsert k acc else acc), x ∈ keys (es ++ [(k, v)]) := by
  intro x hx
  simp only [keys, List.map_append, List.map_cons, List.map_nil, List.mem_append,
    List.mem_singleton]
  exact (mem_ite_setInsert.1 hx).imp (h x) And.left

mutual
theorem flat_canon : ∀ (v : Value) (st : RState), Closed v → WF v → Canon v → flat v st = .ok v := by
  intro v st hc hv hk
  cases v with
  | vl l => exact hc.elim
  | str _ => exact hc.elim
  | seq l => rw [flat_seqB, flatL_canon l st hc hv hk]; rfl
  | map es ck ok =>
    rw [flat_mapB, flatEs_canon es ck ok st {} hc hv.1 hk.1 (by simpa using hv.2)
      (fun _ h => (List.not_mem_nil h).elim) (fun _ h => (List.not_mem_nil h).elim)]
    show Except.ok (Value.map ([] ++ es) ([] ++ flagsOf ck (keys es)) ([] ++ flagsOf ok (keys es))) = _
    rw [List.nil_append, List.nil_append, List.nil_append, ← hk.2.1, ← hk.2.2]
  | _ => exact flat_scalar rfl rfl rfl rfl st
theorem flatL_canon : ∀ (l : List Value) (st : RState), ClosedL l → WFL l → CanonL l →
    flatL l st = .ok l := by
  intro l st hc hl hk
  cases l with
  | nil => rw [flatL]
  | cons v vs =>
    rw [flatL_consB, flat_canon v st hc.1 hl.1 hk.1, bind1, flatL_canon vs st hc.2 hl.2 hk.2]; rfl
theorem flatEs_canon : ∀ (es : List (Key × Value)) (ck ok : List Key) (st : RState) (acc : Mapping),
    ClosedEs es → WFEs es → CanonEs es → (keys acc.es ++ keys es).Nodup →
    (∀ x ∈ acc.ck, x ∈ keys acc.es) → (∀ x ∈ acc.ok, x ∈ keys acc.es) →
    flatEs es ck ok st acc =
      .ok ⟨acc.es ++ es, acc.ck ++ flagsOf ck (keys es), acc.ok ++ flagsOf ok (keys es)⟩ := by
  intro es ck ok st acc hc hes hk hnd hck hok
  rcases es with _ | ⟨⟨k, v⟩, rest⟩
  · simp [flatEs, flagsOf]
  · obtain ⟨hins, hk', hnd'⟩ := insertImpl_step v (decide (k ∈ ck)) (decide (k ∈ ok)) hes.1 hnd
    rw [flatEs_consB, flat_canon v st hc.1 hes.2.1 hk.1, bind1, hins, bind1,
      flatEs_canon rest ck ok st _ hc.2 hes.2.2 hk.2 hnd' (flag_subset hck) (flag_subset hok),
      flag_append (keys rest) (fun h => hk' (hck k h)),
      flag_append (keys rest) (fun h => hk' (hok k h)), List.append_assoc]
    rfl
end

mutual
theorem interp_canon : ∀ (v : Value) (n : Nat) (root : Mapping) (st : RState), Closed v → WF v →
    Canon v → size v ≤ n → interp n root v st = .ok (v, st) := by
  intro v n root st hc hv hk hn
  cases n with
  | zero => exact absurd hn (Nat.not_le.2 (size_pos v))
  | succ n =>
    cases v with
    | vl l => exact hc.elim
    | str _ => exact hc.elim
    | seq l =>
      rw [interp_seqB, interpL_canon l n root 0 st hc hv hk (by rw [size] at hn; omega)]; rfl
    | map es ck ok =>
      rw [interp_mapB, interpEs_canon es n root ck ok st {} hc hv.1 hk.1 (by simpa using hv.2)
        (fun _ h => (List.not_mem_nil h).elim) (fun _ h => (List.not_mem_nil h).elim)
        (by rw [size] at hn; omega)]
      show Except.ok (Value.map ([] ++ es) ([] ++ flagsOf ck (keys es))
        ([] ++ flagsOf ok (keys es)), st) = _
      rw [List.nil_append, List.nil_append, List.nil_append, ← hk.2.1, ← hk.2.2]
    | _ => rfl
theorem interpL_canon : ∀ (l : List Value) (n : Nat) (root : Mapping) (idx : Nat) (st : RState),
    ClosedL l → WFL l → CanonL l → sizeL l ≤ n → interpL n root l idx st = .ok l := by
  intro l n root idx st hc hl hk hn
  cases n with
  | zero => exact absurd hn (Nat.not_le.2 (sizeL_pos l))
  | succ n =>
    cases l with
    | nil => rfl
    | cons v vs =>
      rw [sizeL] at hn
      rw [interpL_consB, interp_canon v n root _ hc.1 hl.1 hk.1 (by omega), bind2,
        interpL_canon vs n root (idx + 1) st hc.2 hl.2 hk.2 (by omega)]
      rfl
theorem interpEs_canon : ∀ (es : List (Key × Value)) (n : Nat) (root : Mapping) (ck ok : List Key)
    (st : RState) (acc : Mapping), ClosedEs es → WFEs es → CanonEs es →
    (keys acc.es ++ keys es).Nodup →
    (∀ x ∈ acc.ck, x ∈ keys acc.es) → (∀ x ∈ acc.ok, x ∈ keys acc.es) → sizeEs es ≤ n →
    interpEs n root es ck ok st acc =
      .ok ⟨acc.es ++ es, acc.ck ++ flagsOf ck (keys es), acc.ok ++ flagsOf ok (keys es)⟩ := by
  intro es n root ck ok st acc hc hes hk hnd hck hok hn
  cases n with
  | zero => exact absurd hn (Nat.not_le.2 (sizeEs_pos es))
  | succ n =>
    rcases es with _ | ⟨⟨k, v⟩, rest⟩
    · simp [interpEs, flagsOf]
    · rw [sizeEs] at hn
      obtain ⟨hins, hk', hnd'⟩ := insertImpl_step v (decide (k ∈ ck)) (decide (k ∈ ok)) hes.1 hnd
      rw [interpEs_consB, interp_canon v n root _ hc.1 hes.2.1 hk.1 (by omega), bind2,
        flat_canon v _ hc.1 hes.2.1 hk.1, bind1, hins, bind1,
        interpEs_canon rest n root ck ok st _ hc.2 hes.2.2 hk.2 hnd' (flag_subset hck)
          (flag_subset hok) (by omega),
        flag_append (keys rest) (fun h => hk' (hck k h)),
        flag_append (keys rest) (fun h => hk' (hok k h)), List.append_assoc]
      rfl
end

structure CanonInv (n : Nat) : Prop where
  interp : ∀ (root : Mapping) (v : Value) (st : RState) (r : Value) (st' : RState),
    WF root.toValue → WF v → interp n root v st = .ok (r, st') → Canon r
  interpL : ∀ (root : Mapping) (l : List Value) (idx : Nat) (st : RState) (r : List Value),
    WF root.toValue → WFL l → interpL n root l idx st = .ok r → CanonL r
  interpEs : ∀ (root : Mapping) (es : List (Key × Value)) (ck ok : List Key) (st : RState)
    (acc m : Mapping), WF root.toValue → WFEs es → (keys acc.es ++ keys es).Nodup →
    CanonEs acc.es → (∀ x ∈ acc.ck, x ∈ keys acc.es) → (∀ x ∈ acc.ok, x ∈ keys acc.es) →
    interpEs n root es ck ok st acc = .ok m →
    CanonEs m.es ∧ keys m.es = keys acc.es ++ keys es ∧
      m.ck = acc.ck ++ flagsOf ck (keys es) ∧ m.ok = acc.ok ++ flagsOf ok (keys es)
  tokRender : ∀ (root : Mapping) (t : Token) (st : RState) (r : Value) (st' : RState),
    WF root.toValue → tokRender n root t st = .ok (r, st') → Canon r

theorem canonInv : ∀ n, CanonInv n := by
  intro n
  induction n with
  | zero => constructor <;> intros <;> contradiction
  | succ n ih =>
    constructor
    case interp =>
      intro root v st r st' hr hv h
      cases v with
      | str s =>
        rw [interp_strB] at h
        obtain ⟨o, -, h⟩ := bind1_ok.1 h
        cases o with
        | none => cases h; trivial
        | some t => exact ih.tokRender _ _ _ _ _ hr h
      | map es ck ok =>
        rw [interp_mapB] at h
        obtain ⟨m, h1, h⟩ := bind1_ok.1 h
        cases h
        obtain ⟨a, (b : keys m.es = keys es), (c : m.ck = flagsOf ck (keys es)),
            (d : m.ok = flagsOf ok (keys es))⟩ :=
          ih.interpEs root es ck ok st {} m hr hv.1 (by simpa using hv.2) trivial (by simp) (by simp) h1
        refine ⟨a, ?_, ?_⟩
        · rw [b, c]; exact (flagsOf_idem _ _).symm
        · rw [b, d]; exact (flagsOf_idem _ _).symm
      | seq l =>
        rw [interp_seqB] at h
        obtain ⟨l', h1, h⟩ := bind1_ok.1 h
        cases h
        exact ih.interpL root l 0 st l' hr hv h1
      | vl l =>
        rw [interp_vlB] at h
        obtain ⟨x, h1, h⟩ := bind1_ok.1 h
        exact ih.interp _ _ _ _ _ hr ((interpInv n).interpVl root l .null st x hr hv trivial h1) h
      | null | bool _ | num _ | lit _ => cases h; trivial
    case interpL =>
      intro root l idx st r hr hl h
      cases l with
      | nil => cases h; trivial
      | cons v vs =>
        rw [interpL_consB] at h
        obtain ⟨x, st1, h1, h⟩ := bind2_ok.1 h
        obtain ⟨xs, h2, h⟩ := bind1_ok.1 h
        cases h
        exact ⟨ih.interp _ _ _ _ _ hr hl.1 h1, ih.interpL _ _ _ _ _ hr hl.2 h2⟩
    case interpEs =>
      intro root es ck ok st acc m hr hes hnd hca hck hok h
      cases es with
      | nil => cases h; simp [hca, flagsOf, keys]
      | cons e rest =>
        obtain ⟨k, v⟩ := e
        rw [interpEs_consB] at h
        obtain ⟨v1, st1, h1, h⟩ := bind2_ok.1 h
        have a := (interpInv n).interp _ _ _ _ _ hr hes.2.1 h1
        have hk1 := ih.interp _ _ _ _ _ hr hes.2.1 h1
        obtain ⟨hins, hk', hnd'⟩ := insertImpl_step v1 (decide (k ∈ ck)) (decide (k ∈ ok)) hes.1 hnd
        rw [flat_canon v1 st1 a.1 a.2 hk1, bind1, hins] at h
        obtain ⟨b1, b2, b3, b4⟩ := ih.interpEs root rest ck ok st ⟨acc.es ++ [(k, v1)], _, _⟩ m hr hes.2.2 hnd'
          (canonEs_append.2 ⟨hca, hk1⟩) (flag_subset hck) (flag_subset hok) h
        refine ⟨b1, by simp [b2, keys], ?_, ?_⟩
        · rw [b3]; exact flag_append (keys rest) (fun h => hk' (hck k h))
        · rw [b4]; exact flag_append (keys rest) (fun h => hk' (hok k h))
    case tokRender =>
      intro root t st r st' hr h
      rw [tokRender_succB] at h
      obtain ⟨v, st1, h1, h⟩ := bind2_ok.1 h
      cases t with
      | ref parts => exact ih.interp _ _ _ _ _ hr ((interpInv n).tokResolve _ _ _ _ _ hr h1) h
      | lit s | combined ts =>
        obtain ⟨s', -, h⟩ := bind1_ok.1 h
        cases h; trivial

end Reclass
