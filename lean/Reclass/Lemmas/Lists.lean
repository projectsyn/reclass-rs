/-
  Helper lemmas for `removeFirst` and `RList` (`Model/Lists`), used by C17.
-/
import Reclass.Model.Lists
namespace Reclass

theorem removeFirst_eq_erase (x : Str) (l : List Str) : removeFirst x l = l.erase x := by
  induction l with
  | nil => rfl
  | cons y ys ih =>
    simp only [removeFirst, List.erase_cons]
    by_cases h : y = x
    · simp [h]
    · simp [h, ih]

theorem mem_removeFirst_of_nodup {x y : Str} {l : List Str} (hn : l.Nodup) :
    y ∈ removeFirst x l ↔ y ∈ l ∧ y ≠ x := by
  rw [removeFirst_eq_erase]
  exact hn.mem_erase_iff.trans (by constructor <;> (intro ⟨a, b⟩; exact ⟨b, a⟩))

theorem nodup_removeFirst {x : Str} {l : List Str} (hn : l.Nodup) : (removeFirst x l).Nodup := by
  rw [removeFirst_eq_erase]; exact hn.erase x

theorem removeFirst_sublist (x : Str) (l : List Str) : (removeFirst x l).Sublist l := by
  rw [removeFirst_eq_erase]; exact List.erase_sublist

theorem removeFirst_eq_filter {x : Str} {l : List Str} (hn : l.Nodup) :
    removeFirst x l = l.filter (fun y => y != x) := by
  rw [removeFirst_eq_erase]; exact hn.erase_eq_filter x

theorem nodup_append_singleton {α : Type} {x : α} {l : List α} (hn : l.Nodup) (hx : x ∉ l) :
    (l ++ [x]).Nodup := by
  rw [List.nodup_append]
  refine ⟨hn, by simp, fun a ha b hb e => hx ?_⟩
  rw [← List.mem_singleton.1 hb, ← e]; exact ha

/-- Items and pending negations exchanged: a plain entry does to `l` what its negation does
to `l.swap`. -/
def RList.swap (l : RList) : RList := { items := l.negs, negs := l.items }

theorem RList.appendIfNew_plain (l : RList) {x : Str} (hx : ∀ n, x ≠ '~' :: n) :
    l.appendIfNew x = (l.swap.handleNegation x).swap := by
  unfold RList.appendIfNew
  split
  · exact absurd rfl (hx _)
  · unfold RList.handleNegation RList.swap
    by_cases h1 : x ∈ l.negs
    · simp only [h1, if_true]
    · by_cases h2 : x ∈ l.items <;> simp only [h1, h2, if_true, if_false]

theorem mem_handleNegation_items {l : RList} (hn : l.items.Nodup) {m x : Str} :
    x ∈ (l.handleNegation m).items ↔ x ∈ l.items ∧ x ≠ m := by
  unfold RList.handleNegation
  by_cases h1 : m ∈ l.items
  · rw [if_pos h1]; exact mem_removeFirst_of_nodup hn
  · have : x ∈ l.items → x ≠ m := fun hx e => h1 (e ▸ hx)
    rw [if_neg h1]
    split <;> exact ⟨fun hx => ⟨hx, this hx⟩, And.left⟩

theorem mem_handleNegation_negs {l : RList} {m x : Str} :
    x ∈ (l.handleNegation m).negs ↔ x ∈ l.negs ∨ (x = m ∧ m ∉ l.items) := by
  unfold RList.handleNegation
  by_cases h1 : m ∈ l.items
  · simp [h1]
  · by_cases h2 : m ∈ l.negs
    · simp only [h1, h2, if_true, if_false, not_false_eq_true, and_true]
      exact ⟨Or.inl, fun h => h.elim id fun e => e ▸ h2⟩
    · simp [h1, h2]

end Reclass
