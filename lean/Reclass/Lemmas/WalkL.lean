/-
  The class walk `renderImpl` / `walkClasses` (`Model/Node`) and its instrumented copy
  `renderImplT` / `walkClassesT` (`Spec/Walk`).
-/
import Reclass.Spec.Walk
import Reclass.Lemmas.NamingL
import Reclass.Lemmas.Fuel
import Reclass.Lemmas.ClosedL
namespace Reclass

/-! ## Unfolding equations -/

theorem renderImpl_zero (r : Inv) (self : NodeM) (seen : List Str) (root : NodeM) :
    renderImpl 0 r self seen root = .error .fuel := by simp only [renderImpl]

theorem renderImpl_succ (n : Nat) (r : Inv) (self : NodeM) (seen : List Str) (root : NodeM) :
    renderImpl (n+1) r self seen root =
      match walkClasses n r self.loc self.classes.items seen root with
      | .error e => .error e
      | .ok (seen', root') =>
        match mergeInto self root' with
        | .error e => .error e
        | .ok root'' => .ok (seen', root'') := by simp only [renderImpl]; rfl

theorem walkClasses_zero (r : Inv) (loc : Option (List Str)) (l seen : List Str) (root : NodeM) :
    walkClasses 0 r loc l seen root = .error .fuel := by simp only [walkClasses]

theorem walkClasses_nil (n : Nat) (r : Inv) (loc : Option (List Str)) (seen : List Str) (root : NodeM) :
    walkClasses (n+1) r loc [] seen root = .ok (seen, root) := by simp only [walkClasses]

theorem walkClasses_cons (n : Nat) (r : Inv) (loc : Option (List Str)) (cls : Str) (rest seen : List Str)
    (root : NodeM) :
    walkClasses (n+1) r loc (cls :: rest) seen root =
      match resolveClassName defaultFuel root.params cls with
      | .error e => .error e
      | .ok c =>
        if c ∈ seen then walkClasses n r loc rest seen root
        else
          match readClass r loc c with
          | .error e => .error e
          | .ok none => walkClasses n r loc rest seen root
          | .ok (some cn) =>
            match renderImpl n r cn (seen ++ [c]) root with
            | .error e => .error e
            | .ok (seen', root') => walkClasses n r loc rest seen' root' := by simp only [walkClasses]; rfl

theorem renderImplT_zero (r : Inv) (self : NodeM) (seen : List Str) (root : NodeM) :
    renderImplT 0 r self seen root = .error .fuel := by simp only [renderImplT]

theorem renderImplT_succ (n : Nat) (r : Inv) (self : NodeM) (seen : List Str) (root : NodeM) :
    renderImplT (n+1) r self seen root =
      match walkClassesT n r self.loc self.classes.items seen root with
      | .error e => .error e
      | .ok (seen', root', tr) =>
        match mergeInto self root' with
        | .error e => .error e
        | .ok root'' => .ok (seen', root'', tr) := by simp only [renderImplT]; rfl

theorem walkClassesT_zero (r : Inv) (loc : Option (List Str)) (l seen : List Str) (root : NodeM) :
    walkClassesT 0 r loc l seen root = .error .fuel := by simp only [walkClassesT]

theorem walkClassesT_nil (n : Nat) (r : Inv) (loc : Option (List Str)) (seen : List Str) (root : NodeM) :
    walkClassesT (n+1) r loc [] seen root = .ok (seen, root, []) := by simp only [walkClassesT]

theorem walkClassesT_cons (n : Nat) (r : Inv) (loc : Option (List Str)) (cls : Str) (rest seen : List Str)
    (root : NodeM) :
    walkClassesT (n+1) r loc (cls :: rest) seen root =
      match resolveClassName defaultFuel root.params cls with
      | .error e => .error e
      | .ok c =>
        if c ∈ seen then walkClassesT n r loc rest seen root
        else
          match readClass r loc c with
          | .error e => .error e
          | .ok none => walkClassesT n r loc rest seen root
          | .ok (some cn) =>
            match renderImplT n r cn (seen ++ [c]) root with
            | .error e => .error e
            | .ok (seen', root', tr1) =>
              match walkClassesT n r loc rest seen' root' with
              | .error e => .error e
              | .ok (seen'', root'', tr2) => .ok (seen'', root'', tr1 ++ (c, cn) :: tr2) := by
  simp only [walkClassesT]; rfl

/-! ## The same equations as chains of `bind1` / `bind2` -/

theorem renderImpl_succB (n : Nat) (r : Inv) (self : NodeM) (seen : List Str) (root : NodeM) :
    renderImpl (n+1) r self seen root =
      bind2 (walkClasses n r self.loc self.classes.items seen root) fun s root' =>
        bind1 (mergeInto self root') fun root'' => .ok (s, root'') := by
  rw [renderImpl_succ]
  rcases walkClasses n r self.loc self.classes.items seen root with _ | ⟨s, r1⟩
  · rfl
  dsimp only [bind2]
  rcases mergeInto self r1 with _ | _ <;> rfl

theorem walkClasses_consB (n : Nat) (r : Inv) (loc : Option (List Str)) (cls : Str) (rest seen : List Str)
    (root : NodeM) :
    walkClasses (n+1) r loc (cls :: rest) seen root =
      bind1 (resolveClassName defaultFuel root.params cls) fun c =>
        if c ∈ seen then walkClasses n r loc rest seen root
        else bind1 (readClass r loc c) fun
          | none => walkClasses n r loc rest seen root
          | some cn => bind2 (renderImpl n r cn (seen ++ [c]) root) fun s1 r1 => walkClasses n r loc rest s1 r1 := by
  rw [walkClasses_cons]
  rcases resolveClassName defaultFuel root.params cls with _ | c
  · rfl
  dsimp only [bind1]
  split
  · rfl
  rcases readClass r loc c with _ | _ | cn
  · rfl
  · rfl
  dsimp only
  rcases renderImpl n r cn (seen ++ [c]) root with _ | ⟨s1, r1⟩ <;> rfl

/-- A result of the instrumented walk is a triple; `bind2` hands its continuation the new
`seen` and the pair (accumulator, trace). -/
theorem renderImplT_succB (n : Nat) (r : Inv) (self : NodeM) (seen : List Str) (root : NodeM) :
    renderImplT (n+1) r self seen root =
      bind2 (walkClassesT n r self.loc self.classes.items seen root) fun s p =>
        bind1 (mergeInto self p.1) fun root'' => .ok (s, root'', p.2) := by
  rw [renderImplT_succ]
  rcases walkClassesT n r self.loc self.classes.items seen root with _ | ⟨s, r1, t⟩
  · rfl
  dsimp only [bind2]
  rcases mergeInto self r1 with _ | _ <;> rfl

theorem walkClassesT_consB (n : Nat) (r : Inv) (loc : Option (List Str)) (cls : Str) (rest seen : List Str)
    (root : NodeM) :
    walkClassesT (n+1) r loc (cls :: rest) seen root =
      bind1 (resolveClassName defaultFuel root.params cls) fun c =>
        if c ∈ seen then walkClassesT n r loc rest seen root
        else bind1 (readClass r loc c) fun
          | none => walkClassesT n r loc rest seen root
          | some cn =>
            bind2 (renderImplT n r cn (seen ++ [c]) root) fun s1 p =>
              bind2 (walkClassesT n r loc rest s1 p.1) fun s2 q => .ok (s2, q.1, p.2 ++ (c, cn) :: q.2) := by
  rw [walkClassesT_cons]
  rcases resolveClassName defaultFuel root.params cls with _ | c
  · rfl
  dsimp only [bind1]
  split
  · rfl
  rcases readClass r loc c with _ | _ | cn
  · rfl
  · rfl
  dsimp only
  rcases renderImplT n r cn (seen ++ [c]) root with _ | ⟨s1, r1, t1⟩
  · rfl
  dsimp only [bind2]
  rcases walkClassesT n r loc rest s1 r1 with _ | ⟨s2, r2, t2⟩ <;> rfl

/-! ## A bind that does not report `fuel` -/

/-- `ErrIn.bind1'` and `ErrIn.bind2'` at `P := (· ≠ .fuel)`: the fuel bound needs the continuation
to know which value the call returned. -/
theorem bind1_nofuel {α β : Type} {x : R α} {f : α → R β} (hx : x ≠ .error .fuel)
    (hf : ∀ a, x = .ok a → f a ≠ .error .fuel) : bind1 x f ≠ .error .fuel :=
  (ErrIn.bind1' (P := (· ≠ .fuel)) (fun _ he h => hx (h ▸ he))
    fun a ha _ he h => hf a ha (h ▸ he)).ne (· rfl)

theorem bind2_nofuel {α β γ : Type} {x : R (α × β)} {f : α → β → R γ} (hx : x ≠ .error .fuel)
    (hf : ∀ a b, x = .ok (a, b) → f a b ≠ .error .fuel) : bind2 x f ≠ .error .fuel :=
  (ErrIn.bind2' (P := (· ≠ .fuel)) (fun _ he h => hx (h ▸ he))
    fun a b ha _ he h => hf a b ha (h ▸ he)).ne (· rfl)

/-! ## Erasing the trace gives the model -/

theorem eraseTrace_ok (s : List Str) (root : NodeM) (tr : List TraceEntry) :
    eraseTrace (.ok (s, root, tr)) = .ok (s, root) := rfl

theorem eraseTrace_error (e : Err) : eraseTrace (.error e) = .error e := rfl

theorem eraseTrace_eq_ok {x : R (List Str × NodeM × List TraceEntry)} {s : List Str} {root : NodeM} :
    eraseTrace x = .ok (s, root) ↔ ∃ tr, x = .ok (s, root, tr) := by
  rcases x with e | ⟨s', root', tr⟩ <;> simp [eraseTrace]

theorem eraseTrace_eq_error {x : R (List Str × NodeM × List TraceEntry)} {e : Err} :
    eraseTrace x = .error e ↔ x = .error e := by
  rcases x with e' | ⟨s, root, tr⟩ <;> simp [eraseTrace]

theorem eraseTrace_eq_fuel {x : R (List Str × NodeM × List TraceEntry)} :
    eraseTrace x = .error .fuel ↔ x = .error .fuel := eraseTrace_eq_error

theorem erase_both : ∀ n : Nat,
    (∀ r self seen root, eraseTrace (renderImplT n r self seen root) = renderImpl n r self seen root) ∧
    (∀ r loc l seen root, eraseTrace (walkClassesT n r loc l seen root) = walkClasses n r loc l seen root)
  | 0 => ⟨fun _ _ _ _ => rfl, fun _ _ _ _ _ => rfl⟩
  | n+1 => by
    obtain ⟨ihR, ihW⟩ := erase_both n
    refine ⟨fun r self seen root => ?_, fun r loc l seen root => ?_⟩
    · rw [renderImplT_succ, renderImpl_succ, ← ihW]
      rcases walkClassesT n r self.loc self.classes.items seen root with _ | ⟨s, r1, t⟩
      · rfl
      dsimp only [eraseTrace]
      rcases mergeInto self r1 with _ | _ <;> rfl
    · cases l with
      | nil => rfl
      | cons cls rest =>
        rw [walkClassesT_cons, walkClasses_cons]
        rcases resolveClassName defaultFuel root.params cls with _ | c
        · rfl
        dsimp only
        split
        · exact ihW ..
        rcases readClass r loc c with _ | _ | cn
        · rfl
        · exact ihW ..
        dsimp only
        rw [← ihR]
        rcases renderImplT n r cn (seen ++ [c]) root with _ | ⟨s1, r1, t1⟩
        · rfl
        dsimp only [eraseTrace]
        rw [← ihW]
        rcases walkClassesT n r loc rest s1 r1 with _ | ⟨s2, r2, t2⟩ <;> rfl
theorem renderImplT_erase (n : Nat) (r : Inv) (self : NodeM) (seen : List Str) (root : NodeM) :
    eraseTrace (renderImplT n r self seen root) = renderImpl n r self seen root :=
  (erase_both n).1 r self seen root

theorem walkClassesT_erase (n : Nat) (r : Inv) (loc : Option (List Str)) (l seen : List Str) (root : NodeM) :
    eraseTrace (walkClassesT n r loc l seen root) = walkClasses n r loc l seen root :=
  (erase_both n).2 r loc l seen root

theorem renderImpl_ok_iff {n : Nat} {r : Inv} {self : NodeM} {seen : List Str} {root : NodeM}
    {seen' : List Str} {root' : NodeM} :
    renderImpl n r self seen root = .ok (seen', root') ↔
      ∃ tr, renderImplT n r self seen root = .ok (seen', root', tr) := by
  rw [← renderImplT_erase]; exact eraseTrace_eq_ok

theorem walkClasses_ok_iff {n : Nat} {r : Inv} {loc : Option (List Str)} {l seen : List Str} {root : NodeM}
    {seen' : List Str} {root' : NodeM} :
    walkClasses n r loc l seen root = .ok (seen', root') ↔
      ∃ tr, walkClassesT n r loc l seen root = .ok (seen', root', tr) := by
  rw [← walkClassesT_erase]; exact eraseTrace_eq_ok

theorem renderImpl_error_iff {n : Nat} {r : Inv} {self : NodeM} {seen : List Str} {root : NodeM} {e : Err} :
    renderImpl n r self seen root = .error e ↔ renderImplT n r self seen root = .error e := by
  rw [← renderImplT_erase]; exact eraseTrace_eq_error

theorem walkClasses_error_iff {n : Nat} {r : Inv} {loc : Option (List Str)} {l seen : List Str} {root : NodeM}
    {e : Err} :
    walkClasses n r loc l seen root = .error e ↔ walkClassesT n r loc l seen root = .error e := by
  rw [← walkClassesT_erase]; exact eraseTrace_eq_error

/-! ## The instrumented walk is sound for the big-step relation `Walk` -/

theorem renderImplT_ok_inv {n : Nat} {r : Inv} {self : NodeM} {seen : List Str} {root : NodeM}
    {seen' : List Str} {root' : NodeM} {tr : List TraceEntry}
    (h : renderImplT (n+1) r self seen root = .ok (seen', root', tr)) :
    ∃ root1, walkClassesT n r self.loc self.classes.items seen root = .ok (seen', root1, tr) ∧
      mergeInto self root1 = .ok root' := by
  rw [renderImplT_succB] at h
  obtain ⟨s, p, h1, h⟩ := bind2_ok.1 h
  obtain ⟨r2, h2, h⟩ := bind1_ok.1 h
  cases h
  exact ⟨p.1, h1, h2⟩

theorem walkClassesT_load_inv {n : Nat} {r : Inv} {loc : Option (List Str)} {cls c : Str}
    {rest seen : List Str} {root : NodeM} {cn : NodeM}
    {seen' : List Str} {root' : NodeM} {tr : List TraceEntry}
    (h : walkClassesT (n+1) r loc (cls :: rest) seen root = .ok (seen', root', tr))
    (h1 : resolveClassName defaultFuel root.params cls = .ok c) (hs : c ∉ seen)
    (h2 : readClass r loc c = .ok (some cn)) :
    ∃ seen1 root1 tr1 tr2,
      renderImplT n r cn (seen ++ [c]) root = .ok (seen1, root1, tr1) ∧
      walkClassesT n r loc rest seen1 root1 = .ok (seen', root', tr2) ∧
      tr = tr1 ++ (c, cn) :: tr2 := by
  rw [walkClassesT_consB, h1, bind1, if_neg hs, h2] at h
  obtain ⟨s1, p, h3, h⟩ := bind2_ok.1 h
  obtain ⟨s2, q, h4, h⟩ := bind2_ok.1 h
  cases h
  exact ⟨s1, p.1, p.2, q.2, h3, h4, rfl⟩

theorem walkT_sound_both (n : Nat) :
    (∀ r self seen root seen' root' tr, renderImplT n r self seen root = .ok (seen', root', tr) →
      ∃ root1, Walk r self.loc self.classes.items seen root seen' root1 tr ∧ mergeInto self root1 = .ok root') ∧
    (∀ r loc l seen root seen' root' tr, walkClassesT n r loc l seen root = .ok (seen', root', tr) →
      Walk r loc l seen root seen' root' tr) := by
  induction n with
  | zero => exact ⟨fun _ _ _ _ _ _ _ h => (nomatch h), fun _ _ _ _ _ _ _ _ h => (nomatch h)⟩
  | succ n ih =>
    obtain ⟨ihR, ihW⟩ := ih
    refine ⟨fun r self seen root seen' root' tr h => ?_, fun r loc l seen root seen' root' tr h => ?_⟩
    · obtain ⟨root1, hw, hm⟩ := renderImplT_ok_inv h
      exact ⟨root1, ihW _ _ _ _ _ _ _ _ hw, hm⟩
    · cases l with
      | nil => cases h; exact Walk.nil ..
      | cons cls rest =>
        have h' := h
        rw [walkClassesT_consB] at h'
        obtain ⟨c, h1, h'⟩ := bind1_ok.1 h'
        by_cases hs : c ∈ seen
        · rw [if_pos hs] at h'
          exact Walk.seen h1 hs (ihW _ _ _ _ _ _ _ _ h')
        rw [if_neg hs] at h'
        obtain ⟨o, h2, h'⟩ := bind1_ok.1 h'
        cases o with
        | none => exact Walk.ignored h1 hs h2 (ihW _ _ _ _ _ _ _ _ h')
        | some cn =>
          obtain ⟨s1, r1, t1, t2, h3, h4, rfl⟩ := walkClassesT_load_inv h h1 hs h2
          obtain ⟨r0, hw, hm⟩ := ihR _ _ _ _ _ _ _ h3
          exact Walk.load h1 hs h2 hw hm (ihW _ _ _ _ _ _ _ _ h4)

theorem walkClassesT_sound {n : Nat} {r : Inv} {loc : Option (List Str)} {l seen : List Str} {root : NodeM}
    {seen' : List Str} {root' : NodeM} {tr : List TraceEntry}
    (h : walkClassesT n r loc l seen root = .ok (seen', root', tr)) :
    Walk r loc l seen root seen' root' tr :=
  (walkT_sound_both n).2 _ _ _ _ _ _ _ _ h

theorem renderImplT_sound {n : Nat} {r : Inv} {self : NodeM} {seen : List Str} {root : NodeM}
    {seen' : List Str} {root' : NodeM} {tr : List TraceEntry}
    (h : renderImplT n r self seen root = .ok (seen', root', tr)) :
    ∃ root1, Walk r self.loc self.classes.items seen root seen' root1 tr ∧ mergeInto self root1 = .ok root' :=
  (walkT_sound_both n).1 _ _ _ _ _ _ _ h

/-! ## Fuel monotonicity -/

theorem walkT_mono_both (n : Nat) :
    (∀ r self seen root, renderImplT n r self seen root ≠ .error .fuel →
      renderImplT (n+1) r self seen root = renderImplT n r self seen root) ∧
    (∀ r loc l seen root, walkClassesT n r loc l seen root ≠ .error .fuel →
      walkClassesT (n+1) r loc l seen root = walkClassesT n r loc l seen root) := by
  induction n with
  | zero => exact ⟨fun _ _ _ _ h => absurd rfl h, fun _ _ _ _ _ h => absurd rfl h⟩
  | succ n ih =>
    obtain ⟨ihR, ihW⟩ := ih
    refine ⟨fun r self seen root => ?_, fun r loc l seen root => ?_⟩
    · rw [renderImplT_succB, renderImplT_succB]
      exact FLe.bind2 (ihW _ _ _ _ _) fun _ _ _ => rfl
    · cases l with
      | nil => intro; rfl
      | cons cls rest =>
        rw [walkClassesT_consB, walkClassesT_consB]
        refine FLe.bind1 (fun _ => rfl) fun c => ?_
        split
        · exact ihW _ _ _ _ _
        refine FLe.bind1 (fun _ => rfl) fun o => ?_
        cases o with
        | none => exact ihW _ _ _ _ _
        | some cn => exact FLe.bind2 (ihR _ _ _ _) fun s1 p => FLe.bind2 (ihW _ _ _ _ _) fun _ _ _ => rfl

theorem renderImplT_mono_le {n m : Nat} (hle : n ≤ m) {r : Inv} {self : NodeM} {seen : List Str} {root : NodeM}
    {res : R (List Str × NodeM × List TraceEntry)}
    (h : renderImplT n r self seen root = res) (hne : res ≠ .error .fuel) :
    renderImplT m r self seen root = res := by
  induction hle with
  | refl => exact h
  | step _ ih => exact ((walkT_mono_both _).1 _ _ _ _ (ih ▸ hne)).trans ih

theorem walkClassesT_mono_le {n m : Nat} (hle : n ≤ m) {r : Inv} {loc : Option (List Str)} {l seen : List Str}
    {root : NodeM} {res : R (List Str × NodeM × List TraceEntry)}
    (h : walkClassesT n r loc l seen root = res) (hne : res ≠ .error .fuel) :
    walkClassesT m r loc l seen root = res := by
  induction hle with
  | refl => exact h
  | step _ ih => exact ((walkT_mono_both _).2 _ _ _ _ _ (ih ▸ hne)).trans ih

theorem renderImpl_mono_le {n m : Nat} (hle : n ≤ m) {r : Inv} {self : NodeM} {seen : List Str} {root : NodeM}
    {res : R (List Str × NodeM)}
    (h : renderImpl n r self seen root = res) (hne : res ≠ .error .fuel) :
    renderImpl m r self seen root = res := by
  subst h
  rw [← renderImplT_erase] at hne
  rw [← renderImplT_erase, renderImplT_mono_le hle rfl (mt eraseTrace_eq_fuel.2 hne), renderImplT_erase]

theorem walkClasses_mono_le {n m : Nat} (hle : n ≤ m) {r : Inv} {loc : Option (List Str)} {l seen : List Str}
    {root : NodeM} {res : R (List Str × NodeM)}
    (h : walkClasses n r loc l seen root = res) (hne : res ≠ .error .fuel) :
    walkClasses m r loc l seen root = res := by
  subst h
  rw [← walkClassesT_erase] at hne
  rw [← walkClassesT_erase, walkClassesT_mono_le hle rfl (mt eraseTrace_eq_fuel.2 hne), walkClassesT_erase]

/-! ## Completeness: every `Walk` derivation is a run of the instrumented walk -/

theorem walkClassesT_skip {n : Nat} {r : Inv} {loc : Option (List Str)} {cls c : Str} {rest seen : List Str}
    {root : NodeM} (h1 : resolveClassName defaultFuel root.params cls = .ok c)
    (h2 : c ∈ seen ∨ readClass r loc c = .ok none) :
    walkClassesT (n+1) r loc (cls :: rest) seen root = walkClassesT n r loc rest seen root := by
  rw [walkClassesT_consB, h1, bind1]
  split
  · rfl
  · rw [h2.resolve_left ‹_›]; rfl

theorem Walk.complete {r : Inv} {loc : Option (List Str)} {l seen : List Str} {root : NodeM}
    {seen' : List Str} {root' : NodeM} {tr : List TraceEntry}
    (h : Walk r loc l seen root seen' root' tr) :
    ∃ n, walkClassesT n r loc l seen root = .ok (seen', root', tr) := by
  induction h with
  | nil loc seen root => exact ⟨1, walkClassesT_nil ..⟩
  | seen h1 hs _ ih =>
    obtain ⟨n, hn⟩ := ih
    exact ⟨n+1, (walkClassesT_skip h1 (.inl hs)).trans hn⟩
  | ignored h1 _ h2 _ ih =>
    obtain ⟨n, hn⟩ := ih
    exact ⟨n+1, (walkClassesT_skip h1 (.inr h2)).trans hn⟩
  | @load loc cls rest seen root c cn seen1 root1 tr1 root2 seen' root' tr2 h1 hs h2 _ hm _ ih1 ih2 =>
    obtain ⟨n1, hn1⟩ := ih1
    obtain ⟨n2, hn2⟩ := ih2
    refine ⟨max (n1+1) n2 + 1, ?_⟩
    rw [walkClassesT_cons]; simp only [h1, hs, if_false, h2]
    have hr : renderImplT (n1+1) r cn (seen ++ [c]) root = .ok (seen1, root2, tr1) := by
      rw [renderImplT_succ]; simp only [hn1, hm]
    rw [renderImplT_mono_le (Nat.le_max_left _ _) hr (by simp)]
    simp only []
    rw [walkClassesT_mono_le (Nat.le_max_right _ _) hn2 (by simp)]

/-! ## `Walk` is a function of its inputs -/

theorem Walk.det {r : Inv} {loc : Option (List Str)} {l seen : List Str} {root : NodeM}
    {s1 s2 : List Str} {r1 r2 : NodeM} {t1 t2 : List TraceEntry}
    (h1 : Walk r loc l seen root s1 r1 t1) (h2 : Walk r loc l seen root s2 r2 t2) :
    s1 = s2 ∧ r1 = r2 ∧ t1 = t2 := by
  obtain ⟨n1, e1⟩ := h1.complete
  obtain ⟨n2, e2⟩ := h2.complete
  have a := walkClassesT_mono_le (Nat.le_max_left n1 n2) e1 (by simp)
  have b := walkClassesT_mono_le (Nat.le_max_right n1 n2) e2 (by simp)
  rw [a] at b
  simp only [Except.ok.injEq, Prod.mk.injEq] at b
  exact b

/-! ## What a walk does to `seen` -/

/-- A permutation, not equality: `seen` records classes when they are entered, the trace when
they are merged. -/
theorem Walk.seen_ext {r : Inv} {loc : Option (List Str)} {l seen : List Str} {root : NodeM}
    {seen' : List Str} {root' : NodeM} {tr : List TraceEntry}
    (h : Walk r loc l seen root seen' root' tr) :
    ∃ ext, seen' = seen ++ ext ∧ ext.Perm (tr.map Prod.fst) := by
  induction h with
  | nil => exact ⟨[], by simp, by simp⟩
  | seen _ _ _ ih => exact ih
  | ignored _ _ _ _ ih => exact ih
  | @load loc cls rest seen root c cn seen1 root1 tr1 root2 seen' root' tr2 _ _ _ _ _ _ ih1 ih2 =>
    obtain ⟨e1, he1, hp1⟩ := ih1
    obtain ⟨e2, he2, hp2⟩ := ih2
    refine ⟨c :: (e1 ++ e2), ?_, ?_⟩
    · rw [he2, he1]; simp
    · simp only [List.map_append, List.map_cons]
      exact ((hp1.append hp2).cons c).trans List.perm_middle.symm

theorem Walk.seen_subset {r : Inv} {loc : Option (List Str)} {l seen : List Str} {root : NodeM}
    {seen' : List Str} {root' : NodeM} {tr : List TraceEntry}
    (h : Walk r loc l seen root seen' root' tr) : seen ⊆ seen' := by
  obtain ⟨ext, he, _⟩ := h.seen_ext
  intro x hx; rw [he]; exact List.mem_append_left _ hx

theorem Walk.seen_nodup {r : Inv} {loc : Option (List Str)} {l seen : List Str} {root : NodeM}
    {seen' : List Str} {root' : NodeM} {tr : List TraceEntry}
    (h : Walk r loc l seen root seen' root' tr) (hn : seen.Nodup) : seen'.Nodup := by
  induction h with
  | nil => exact hn
  | seen _ _ _ ih => exact ih hn
  | ignored _ _ _ _ ih => exact ih hn
  | load _ hs _ _ _ _ ih1 ih2 => exact ih2 (ih1 (nodup_append_singleton hn hs))

theorem Walk.trace_nodup {r : Inv} {loc : Option (List Str)} {l seen : List Str} {root : NodeM}
    {seen' : List Str} {root' : NodeM} {tr : List TraceEntry}
    (h : Walk r loc l seen root seen' root' tr) (hn : seen.Nodup) :
    (tr.map Prod.fst).Nodup ∧ ∀ x ∈ tr.map Prod.fst, x ∉ seen := by
  obtain ⟨ext, he, hp⟩ := h.seen_ext
  have hn' := h.seen_nodup hn
  rw [he] at hn'
  have hd := List.nodup_append.1 hn'
  refine ⟨hp.nodup_iff.1 hd.2.1, ?_⟩
  intro x hx hxs
  exact hd.2.2 x hxs x (hp.mem_iff.2 hx) rfl

/-! ## What a walk does to `root`: it merges the traced classes in trace order -/

theorem mergeSeq_append (root : NodeM) (a b : List NodeM) :
    mergeSeq root (a ++ b) =
      match mergeSeq root a with
      | .error e => .error e
      | .ok root1 => mergeSeq root1 b := by
  induction a generalizing root with
  | nil => simp [mergeSeq]
  | cons x xs ih =>
    simp only [List.cons_append, mergeSeq]
    cases mergeInto x root with
    | error e => simp
    | ok r1 => simp only []; exact ih r1

theorem Walk.mergeSeq_eq {r : Inv} {loc : Option (List Str)} {l seen : List Str} {root : NodeM}
    {seen' : List Str} {root' : NodeM} {tr : List TraceEntry}
    (h : Walk r loc l seen root seen' root' tr) :
    mergeSeq root (tr.map Prod.snd) = .ok root' := by
  induction h with
  | nil => simp [mergeSeq]
  | seen _ _ _ ih => exact ih
  | ignored _ _ _ _ ih => exact ih
  | load _ _ _ _ hm _ ih1 ih2 =>
    simp only [List.map_append, List.map_cons]
    rw [mergeSeq_append, ih1]
    simp only [mergeSeq, hm]
    exact ih2

theorem mergeInto_eqB (self other : NodeM) :
    mergeInto self other = bind1 (other.params.merge self.params) fun p => .ok
      { other with apps := other.apps.merge self.apps, classes := other.classes.merge self.classes, params := p } := by
  unfold mergeInto
  rcases other.params.merge self.params with _ | _ <;> rfl

theorem mergeInto_ok {self other root' : NodeM} (h : mergeInto self other = .ok root') :
    other.params.merge self.params = .ok root'.params ∧
    root'.apps = other.apps.merge self.apps ∧
    root'.classes = other.classes.merge self.classes ∧
    root'.loc = other.loc := by
  rw [mergeInto_eqB, bind1_ok] at h
  obtain ⟨p, hp, h⟩ := h
  cases h
  exact ⟨hp, rfl, rfl, rfl⟩

theorem mergeSeq_consB (root c : NodeM) (cs : List NodeM) :
    mergeSeq root (c :: cs) = bind1 (mergeInto c root) fun r1 => mergeSeq r1 cs := by
  rw [mergeSeq]; rcases mergeInto c root with _ | _ <;> rfl

theorem mergeSeq_params {root root' : NodeM} {ns : List NodeM} (h : mergeSeq root ns = .ok root') :
    mergeParamsSeq root.params (ns.map (·.params)) = .ok root'.params := by
  induction ns generalizing root with
  | nil => simp only [mergeSeq, Except.ok.injEq] at h; subst h; simp [mergeParamsSeq]
  | cons x xs ih =>
    rw [mergeSeq_consB, bind1_ok] at h
    obtain ⟨r1, hm, h⟩ := h
    simp only [List.map_cons, mergeParamsSeq, (mergeInto_ok hm).1]
    exact ih h

theorem mergeSeq_classes {root root' : NodeM} {ns : List NodeM} (h : mergeSeq root ns = .ok root') :
    root'.classes = ns.foldl (fun acc n => acc.merge n.classes) root.classes := by
  induction ns generalizing root with
  | nil => simp only [mergeSeq, Except.ok.injEq] at h; subst h; rfl
  | cons x xs ih =>
    rw [mergeSeq_consB, bind1_ok] at h
    obtain ⟨r1, hm, h⟩ := h
    rw [List.foldl_cons, ← (mergeInto_ok hm).2.2.1]
    exact ih h

theorem mergeSeq_apps {root root' : NodeM} {ns : List NodeM} (h : mergeSeq root ns = .ok root') :
    root'.apps = ns.foldl (fun acc n => acc.merge n.apps) root.apps := by
  induction ns generalizing root with
  | nil => simp only [mergeSeq, Except.ok.injEq] at h; subst h; rfl
  | cons x xs ih =>
    rw [mergeSeq_consB, bind1_ok] at h
    obtain ⟨r1, hm, h⟩ := h
    rw [List.foldl_cons, ← (mergeInto_ok hm).2.1]
    exact ih h

/-! ## Plain names -/

theorem resolveClassName_of_no_marker (fuel : Nat) (params : Mapping) {cls : Str}
    (h : strContains cls Extracted.classRefMarker.toList = false) :
    resolveClassName fuel params cls = .ok cls := by
  unfold resolveClassName
  simp [h]

theorem readClass_of_not_dot (r : Inv) (loc : Option (List Str)) {c : Str} (h : c.head? ≠ some '.') :
    readClass r loc c = readClass r none c := by
  unfold readClass
  rw [absClassName_nodot loc h, absClassName_nodot none h]

/-! ## Refinement to the abstract depth-first traversal -/

theorem Walk.dfs {r : Inv} (hr : PlainInv r) {loc : Option (List Str)} {l seen : List Str} {root : NodeM}
    {seen' : List Str} {root' : NodeM} {tr : List TraceEntry}
    (h : Walk r loc l seen root seen' root' tr) (hl : ∀ cls ∈ l, PlainName cls) :
    Dfs (graphOf r) l seen seen' (tr.map Prod.fst) := by
  induction h with
  | nil => exact Dfs.nil _
  | @seen loc cls rest seen root c seen' root' tr h1 hs _ ih =>
    have hp := hl cls (List.mem_cons_self ..)
    rw [resolveClassName_of_no_marker _ _ hp.1] at h1
    cases h1
    exact Dfs.visited hs (ih fun x hx => hl x (List.mem_cons_of_mem _ hx))
  | @ignored loc cls rest seen root c seen' root' tr h1 hs h2 _ ih =>
    have hp := hl cls (List.mem_cons_self ..)
    rw [resolveClassName_of_no_marker _ _ hp.1] at h1
    cases h1
    refine Dfs.skip hs ?_ (ih fun x hx => hl x (List.mem_cons_of_mem _ hx))
    rw [readClass_of_not_dot r loc hp.2] at h2
    simp [graphOf, h2]
  | @load loc cls rest seen root c cn seen1 root1 tr1 root2 seen' root' tr2 h1 hs h2 _ _ _ ih1 ih2 =>
    have hp := hl cls (List.mem_cons_self ..)
    rw [resolveClassName_of_no_marker _ _ hp.1] at h1
    cases h1
    have hcn := hr loc cls cn h2
    rw [readClass_of_not_dot r loc hp.2] at h2
    simp only [List.map_append, List.map_cons]
    refine Dfs.visit hs ?_ (ih1 hcn) (ih2 fun x hx => hl x (List.mem_cons_of_mem _ hx))
    simp [graphOf, h2]

theorem Dfs.det {g : Str → Option (List Str)} {l vis v1 p1 v2 p2 : List Str}
    (h1 : Dfs g l vis v1 p1) (h2 : Dfs g l vis v2 p2) : v1 = v2 ∧ p1 = p2 := by
  induction h1 generalizing v2 p2 with
  | nil => cases h2; exact ⟨rfl, rfl⟩
  | visited hs _ ih =>
    cases h2 with
    | visited _ h => exact ih h
    | skip hn _ _ => exact absurd hs hn
    | visit hn _ _ _ => exact absurd hs hn
  | skip hn hg _ ih =>
    cases h2 with
    | visited hs _ => exact absurd hs hn
    | skip _ _ h => exact ih h
    | visit _ hg' _ _ => rw [hg] at hg'; cases hg'
  | visit hn hg _ _ ih1 ih2 =>
    cases h2 with
    | visited hs _ => exact absurd hs hn
    | skip _ hg' _ => rw [hg] at hg'; cases hg'
    | visit _ hg' ha hb =>
      rw [hg] at hg'; cases hg'
      obtain ⟨rfl, rfl⟩ := ih1 ha
      obtain ⟨rfl, rfl⟩ := ih2 hb
      exact ⟨rfl, rfl⟩

theorem dfs_sound {g : Str → Option (List Str)} : ∀ (n : Nat) (l vis v po : List Str),
    dfs n g l vis = some (v, po) → Dfs g l vis v po := by
  intro n l vis
  fun_induction dfs n g l vis with
  | case1 => intro v po h; cases h
  | case2 => intro v po h; cases h; exact Dfs.nil _
  | case3 n g c rest vis hs ih => intro v po h; exact Dfs.visited hs (ih _ _ h)
  | case4 n g c rest vis hs hg ih => intro v po h; exact Dfs.skip hs hg (ih _ _ h)
  | case5 => intro v po h; cases h
  | case6 => intro v po h; cases h
  | case7 n g c rest vis hs incs hg v1 p1 h3 v2 p2 h4 ih1 ih2 =>
    intro v po h; cases h; exact Dfs.visit hs hg (ih1 _ _ h3) (ih2 _ _ h4)

/-! ## Nothing but the walk itself reports `fuel` -/

/-- The errors of decoding YAML: a tagged value, a sequence or mapping as key, a key written again
after it was written as constant. -/
def DecodeErr (e : Err) : Prop :=
  e = .yamlTaggedValue ∨ (∃ s, e = .unmodelled s) ∨ ∃ k, e = .constKey k

theorem DecodeErr.ne_fuel {e : Err} (h : DecodeErr e) : e ≠ .fuel := by
  rintro rfl; rcases h with h | ⟨_, h⟩ | ⟨_, h⟩ <;> cases h

theorem keyOfYaml_decodeErr (k : Yaml) : ErrIn DecodeErr (Key.ofYaml k) := by
  intro e h
  cases k <;> cases h
  · exact .inr (.inl ⟨_, rfl⟩)
  · exact .inr (.inl ⟨_, rfl⟩)
  · exact .inl rfl

mutual
theorem ofYaml_decodeErr : ∀ y : Yaml, ErrIn DecodeErr (Value.ofYaml y)
  | .null | .bool _ | .num _ | .str _ => .ok
  | .tagged _ _ => .error (.inl rfl)
  | .seq l => by rw [ofYaml_seqB]; exact .bind1 (ofYamlL_decodeErr l) fun _ => .ok
  | .map es => by rw [ofYaml_mapB]; exact .bind1 (ofYamlEs_decodeErr es {}) fun _ => .ok
theorem ofYamlL_decodeErr : ∀ l : List Yaml, ErrIn DecodeErr (ofYamlL l)
  | [] => .ok
  | y :: ys => by
    rw [ofYamlL_consB]
    exact .bind1 (ofYaml_decodeErr y) fun _ => .bind1 (ofYamlL_decodeErr ys) fun _ => .ok
theorem ofYamlEs_decodeErr : ∀ (es : List (Yaml × Yaml)) (m : Mapping), ErrIn DecodeErr (ofYamlEs es m)
  | [], _ => .ok
  | (k, v) :: rest, m => by
    rw [ofYamlEs_consB]
    exact .bind1 (keyOfYaml_decodeErr k) fun _ => .bind1 (ofYaml_decodeErr v) fun _ =>
      .bind1 (fun _ h => .inr (.inr ⟨_, insertImpl_error h⟩)) fun _ => ofYamlEs_decodeErr rest _
end

theorem ofYaml_nofuel : ∀ y : Yaml, Value.ofYaml y ≠ .error .fuel :=
  fun y h => (ofYaml_decodeErr y _ h).ne_fuel rfl

theorem ofYamlL_nofuel : ∀ l : List Yaml, ofYamlL l ≠ .error .fuel :=
  fun l h => (ofYamlL_decodeErr l _ h).ne_fuel rfl

theorem merge_nofuel (m o : Mapping) : m.merge o ≠ .error .fuel :=
  Termination.ne_fuel_of_helper (mergeEntries_helper _ _ _ _)

theorem mergeInto_nofuel (self other : NodeM) : mergeInto self other ≠ .error .fuel := by
  rw [mergeInto_eqB]
  exact bind1_nofuel (merge_nofuel other.params self.params) fun _ _ => nofun

theorem ofSrc_eqB (loc : Option (List Str)) (src : ClassSrc) :
    NodeM.ofSrc loc src = bind1 (ofYamlEs src.params {}) fun p => .ok
      { apps := RList.ofList src.apps, params := p, loc := loc,
        classes := { items := nub [] ((nub [] src.classes).map (absClassName loc)) } } := by
  rw [ofSrc_eq, Mapping.ofYamlEntries]
  rcases ofYamlEs src.params {} with _ | _ <;> rfl

theorem ofSrc_decodeErr (loc : Option (List Str)) (src : ClassSrc) :
    ErrIn DecodeErr (NodeM.ofSrc loc src) := by
  rw [ofSrc_eqB]; exact .bind1 (ofYamlEs_decodeErr _ _) fun _ => .ok

theorem ofSrc_nofuel (loc : Option (List Str)) (src : ClassSrc) : NodeM.ofSrc loc src ≠ .error .fuel :=
  fun h => (ofSrc_decodeErr loc src _ h).ne_fuel rfl

theorem readClass_nofuel (r : Inv) (loc : Option (List Str)) (c : Str) : readClass r loc c ≠ .error .fuel := by
  unfold readClass
  dsimp only
  split
  · split <;> nofun
  · nofun
  · split
    next h2 => rintro ⟨⟩; exact ofSrc_nofuel _ _ h2
    next => nofun

/-! ## Termination: an explicit fuel bound -/

theorem unseen_le_length (U seen : List Str) : unseen U seen ≤ U.length := List.length_filter_le _ _

theorem unseen_mono (U : List Str) {seen seen' : List Str} (h : seen ⊆ seen') :
    unseen U seen' ≤ unseen U seen := by
  unfold unseen
  rw [← List.countP_eq_length_filter, ← List.countP_eq_length_filter]
  exact List.countP_mono_left fun x _ hx => decide_eq_true fun hs => of_decide_eq_true hx (h hs)

/-- The names not in `seen ++ [c]` are those not in `seen`, filtered once more by `· ≠ c`; that
filter drops `c`. -/
theorem unseen_lt (U : List Str) {seen : List Str} {c : Str} (hU : c ∈ U) (hs : c ∉ seen) :
    unseen U (seen ++ [c]) < unseen U seen := by
  have : U.filter (fun u => decide (u ∉ seen ++ [c])) =
      (U.filter fun u => decide (u ∉ seen)).filter fun u => decide (u ≠ c) := by
    rw [List.filter_filter]
    exact List.filter_congr fun u _ => by simp [not_or, and_comm]
  unfold unseen
  rw [this]
  exact List.length_filter_lt_length_iff_exists.2
    ⟨c, List.mem_filter.2 ⟨hU, decide_eq_true hs⟩, by simp⟩

theorem renderImpl_seen_subset {n : Nat} {r : Inv} {self : NodeM} {seen : List Str} {root : NodeM}
    {seen' : List Str} {root' : NodeM} (h : renderImpl n r self seen root = .ok (seen', root')) :
    seen ⊆ seen' := by
  obtain ⟨tr, ht⟩ := renderImpl_ok_iff.1 h
  obtain ⟨root1, hw, _⟩ := renderImplT_sound ht
  exact hw.seen_subset

/-- The measure, with `k` bounding the names of `U` not yet seen: `(k+1)*(B+2)` for `renderImpl`,
`l.length + 1 + k*(B+2)` for `walkClasses` on `l`.  An entry of `l` costs one; a descent into a
class costs `B+2`, one for `renderImpl` and `B+1` to walk its at most `B` includes to the end,
and it puts a name of `U` into `seen`, so at most `k` descents follow. -/
theorem walk_nofuel_both {r : Inv} {U : List Str} {B : Nat} (hr : GoodInv r U B) : ∀ n : Nat,
    (∀ self seen root k, GoodNode r U B self → unseen U seen ≤ k → (k+1)*(B+2) ≤ n →
       renderImpl n r self seen root ≠ .error .fuel) ∧
    (∀ loc l seen root k, GoodList r U loc l → unseen U seen ≤ k → l.length + 1 + k*(B+2) ≤ n →
       walkClasses n r loc l seen root ≠ .error .fuel) := by
  intro n
  induction n with
  | zero =>
    refine ⟨?_, ?_⟩
    · intro self seen root k _ _ hn
      rw [Nat.succ_mul] at hn; omega
    · intro loc l seen root k _ _ hn; omega
  | succ n ih =>
    obtain ⟨ihR, ihW⟩ := ih
    refine ⟨?_, ?_⟩
    · intro self seen root k hg hk hn
      rw [Nat.succ_mul] at hn
      rw [renderImpl_succB]
      exact bind2_nofuel (ihW _ _ seen root k hg.2 hk (by have := hg.1; omega)) fun s1 r1 _ =>
        bind1_nofuel (mergeInto_nofuel self r1) fun _ _ => nofun
    · intro loc l seen root k hl hk hn
      cases l with
      | nil => rw [walkClasses_nil]; nofun
      | cons cls rest =>
        rw [walkClasses_consB]
        simp only [List.length_cons] at hn
        obtain ⟨hnf, hin⟩ := hl cls (List.mem_cons_self ..)
        have hl' : GoodList r U loc rest := fun x hx => hl x (List.mem_cons_of_mem _ hx)
        refine bind1_nofuel (hnf root.params) fun c h1 => ?_
        split
        · exact ihW loc rest seen root k hl' hk (by omega)
        rename_i hs
        refine bind1_nofuel (readClass_nofuel r loc c) fun o h2 => ?_
        cases o with
        | none => exact ihW loc rest seen root k hl' hk (by omega)
        | some cn =>
          -- the descent adds `c`, a name of `U` not seen before: one of the `k` units is spent
          have hlt := unseen_lt U (hin _ _ _ h1 h2) hs
          cases k with
          | zero => omega
          | succ k' =>
            rw [Nat.succ_mul] at hn
            refine bind2_nofuel (ihR cn (seen ++ [c]) root k' (hr loc c cn h2) (by omega)
              (by rw [Nat.succ_mul]; omega)) fun s1 r1 h3 => ?_
            have hsub : seen ⊆ s1 := fun x hx => renderImpl_seen_subset h3 (List.mem_append_left _ hx)
            exact ihW loc rest s1 r1 (k'+1) hl' (Nat.le_trans (unseen_mono U hsub) hk)
              (by rw [Nat.succ_mul]; omega)

theorem renderImpl_nofuel {r : Inv} {U : List Str} {B : Nat} (hr : GoodInv r U B)
    {self : NodeM} (hs : GoodNode r U B self) (seen : List Str) (root : NodeM) {n : Nat}
    (hn : (U.length + 1) * (B + 2) ≤ n) :
    renderImpl n r self seen root ≠ .error .fuel :=
  (walk_nofuel_both hr n).1 self seen root U.length hs (unseen_le_length U seen) hn

/-! ## The bound for plain inventories: universe = class names, `B` = longest include list -/

theorem findEntity_some_mem {name : Str} {l : List (Str × EntityInfo × FileRes)} {e : EntityInfo × FileRes}
    (h : findEntity name l = some e) : (name, e) ∈ l := by
  induction l with
  | nil => cases h
  | cons x xs ih =>
    obtain ⟨n, e'⟩ := x
    rw [findEntity] at h
    split at h
    next hn => cases h; exact hn ▸ List.mem_cons_self ..
    next => exact List.mem_cons_of_mem _ (ih h)

theorem readClass_some {r : Inv} {loc : Option (List Str)} {c : Str} {cn : NodeM}
    (h : readClass r loc c = .ok (some cn)) :
    ∃ info src, findEntity (absClassName loc c) r.classes = some (info, .ok src) ∧
      NodeM.ofSrc (some info.loc) src = .ok cn := by
  unfold readClass at h
  simp only [] at h
  split at h
  · split at h <;> cases h
  · cases h
  · rename_i info src heq
    split at h
    · cases h
    · cases h; exact ⟨info, src, heq, ‹_›⟩

theorem nub_length_le (s xs : List Str) : (nub s xs).length ≤ xs.length := by
  induction xs generalizing s with
  | nil => exact Nat.le_refl _
  | cons x xs ih =>
    rw [nub]
    split
    · exact Nat.le_succ_of_le (ih s)
    · exact Nat.succ_le_succ (ih _)

theorem ofSrc_classes_length {loc : Option (List Str)} {src : ClassSrc} {cn : NodeM}
    (h : NodeM.ofSrc loc src = .ok cn) : cn.classes.items.length ≤ src.classes.length := by
  rw [ofSrc_classes_items h]
  exact Nat.le_trans (nub_length_le _ _) (by rw [List.length_map]; exact nub_length_le _ _)

theorem foldl_max_ge_init (f : (Str × EntityInfo × FileRes) → Nat) (l : List (Str × EntityInfo × FileRes)) (m : Nat) :
    m ≤ l.foldl (fun m e => max m (f e)) m := by
  induction l generalizing m with
  | nil => simp
  | cons x xs ih => exact Nat.le_trans (Nat.le_max_left _ _) (ih _)

theorem foldl_max_ge_mem (f : (Str × EntityInfo × FileRes) → Nat) (l : List (Str × EntityInfo × FileRes)) (m : Nat)
    {x : Str × EntityInfo × FileRes} (hx : x ∈ l) : f x ≤ l.foldl (fun m e => max m (f e)) m := by
  induction l generalizing m with
  | nil => simp at hx
  | cons y ys ih =>
    rcases List.mem_cons.1 hx with h | h
    · subst h; exact Nat.le_trans (Nat.le_max_right _ _) (foldl_max_ge_init f ys _)
    · exact ih _ h

theorem readClass_length_le_maxIncludes {r : Inv} {loc : Option (List Str)} {c : Str} {cn : NodeM}
    (h : readClass r loc c = .ok (some cn)) : cn.classes.items.length ≤ maxIncludes r := by
  obtain ⟨info, src, hf, ho⟩ := readClass_some h
  have hm := findEntity_some_mem hf
  have := foldl_max_ge_mem (fun e => match e.2.2 with | .ok src => src.classes.length | .bad _ => 0) r.classes 0 hm
  simp only [] at this
  exact Nat.le_trans (ofSrc_classes_length ho) this

theorem plain_goodList (r : Inv) (loc : Option (List Str)) {l : List Str} (hl : ∀ cls ∈ l, PlainName cls) :
    GoodList r (r.classes.map (·.1)) loc l := by
  intro cls hcls
  obtain ⟨hm, hd⟩ := hl cls hcls
  refine ⟨?_, ?_⟩
  · intro params; rw [resolveClassName_of_no_marker _ _ hm]; simp
  · intro params c cn h1 h2
    rw [resolveClassName_of_no_marker _ _ hm] at h1
    cases h1
    obtain ⟨info, src, hf, _⟩ := readClass_some h2
    rw [absClassName_nodot loc hd] at hf
    exact List.mem_map.2 ⟨_, findEntity_some_mem hf, rfl⟩

theorem plain_goodInv {r : Inv} (hr : PlainInv r) {B : Nat} (hB : maxIncludes r ≤ B) :
    GoodInv r (r.classes.map (·.1)) B := by
  intro loc c cn h
  exact ⟨Nat.le_trans (readClass_length_le_maxIncludes h) hB, plain_goodList r cn.loc (hr loc c cn h)⟩

/-! ## Skipped entries -/

theorem walkClasses_skip {n : Nat} {r : Inv} {loc : Option (List Str)} {cls c : Str} {rest seen : List Str}
    {root : NodeM} (h1 : resolveClassName defaultFuel root.params cls = .ok c)
    (h2 : c ∈ seen ∨ readClass r loc c = .ok none) :
    walkClasses (n+1) r loc (cls :: rest) seen root = walkClasses n r loc rest seen root := by
  rw [← walkClassesT_erase, ← walkClassesT_erase, walkClassesT_skip h1 h2]

theorem walkClassesT_insert_skipped {r : Inv} {loc : Option (List Str)} {cls c : Str}
    (h1 : ∀ params, resolveClassName defaultFuel params cls = .ok c)
    (h2 : readClass r loc c = .ok none) (pre rest : List Str) :
    ∀ (n : Nat) (seen : List Str) (root : NodeM),
      walkClassesT n r loc (pre ++ rest) seen root ≠ .error .fuel →
      walkClassesT (n+1) r loc (pre ++ cls :: rest) seen root = walkClassesT n r loc (pre ++ rest) seen root := by
  induction pre with
  | nil => intro n seen root _; exact walkClassesT_skip (h1 _) (Or.inr h2)
  | cons p pre ih =>
    intro n seen root
    cases n with
    | zero => intro h; exact absurd rfl h
    | succ m =>
      rw [List.cons_append, List.cons_append, walkClassesT_consB, walkClassesT_consB]
      refine FLe.bind1 (fun _ => rfl) fun d => ?_
      split
      · exact ih _ _ _
      refine FLe.bind1 (fun _ => rfl) fun o => ?_
      cases o with
      | none => exact ih _ _ _
      | some cn =>
        exact FLe.bind2 ((walkT_mono_both m).1 _ _ _ _) fun s1 p => FLe.bind2 (ih _ _ _) fun _ _ _ => rfl

theorem walkClasses_insert_skipped {r : Inv} {loc : Option (List Str)} {cls c : Str}
    (h1 : ∀ params, resolveClassName defaultFuel params cls = .ok c)
    (h2 : readClass r loc c = .ok none) (pre rest : List Str) {n : Nat} {seen : List Str} {root : NodeM}
    (hne : walkClasses n r loc (pre ++ rest) seen root ≠ .error .fuel) :
    walkClasses (n+1) r loc (pre ++ cls :: rest) seen root = walkClasses n r loc (pre ++ rest) seen root := by
  rw [← walkClassesT_erase] at hne
  rw [← walkClassesT_erase, ← walkClassesT_erase,
    walkClassesT_insert_skipped h1 h2 pre rest _ _ _ (mt eraseTrace_eq_fuel.2 hne)]

/-! ## `UList.merge` membership -/

theorem UList.mem_appendIfNew {l : UList} {x y : Str} :
    y ∈ (l.appendIfNew x).items ↔ y ∈ l.items ∨ y = x := by
  unfold UList.appendIfNew
  split
  · rename_i h; exact ⟨.inl, (·.elim id (· ▸ h))⟩
  · simp

theorem UList.mem_merge {l o : UList} {y : Str} :
    y ∈ (l.merge o).items ↔ y ∈ l.items ∨ y ∈ o.items := by
  unfold UList.merge
  generalize o.items = xs
  induction xs generalizing l with
  | nil => simp
  | cons x xs ih =>
    simp only [List.foldl_cons, ih, UList.mem_appendIfNew, List.mem_cons, or_assoc]

/-! ## Error propagation -/

theorem readClass_missing {r : Inv} {loc : Option (List Str)} {c : Str}
    (hf : findEntity (absClassName loc c) r.classes = none) :
    readClass r loc c =
      if r.cfg.isClassIgnored (absClassName loc c) then .ok none
      else .error (.classNotFound (absClassName loc c)) := by
  unfold readClass
  simp only [hf]

theorem renderImpl_error_of_walk {n : Nat} {r : Inv} {self : NodeM} {seen : List Str} {root : NodeM} {e : Err}
    (h : walkClasses n r self.loc self.classes.items seen root = .error e) :
    renderImpl (n+1) r self seen root = .error e := by
  rw [renderImpl_succ, h]

theorem walkClasses_error_of_read {n : Nat} {r : Inv} {loc : Option (List Str)} {cls c : Str}
    {rest seen : List Str} {root : NodeM} {e : Err}
    (h1 : resolveClassName defaultFuel root.params cls = .ok c) (hs : c ∉ seen)
    (h2 : readClass r loc c = .error e) :
    walkClasses (n+1) r loc (cls :: rest) seen root = .error e := by
  rw [walkClasses_cons]; simp only [h1, hs, if_false, h2]

theorem walkClasses_error_of_render {n : Nat} {r : Inv} {loc : Option (List Str)} {cls c : Str}
    {rest seen : List Str} {root : NodeM} {cn : NodeM} {e : Err}
    (h1 : resolveClassName defaultFuel root.params cls = .ok c) (hs : c ∉ seen)
    (h2 : readClass r loc c = .ok (some cn))
    (h3 : renderImpl n r cn (seen ++ [c]) root = .error e) :
    walkClasses (n+1) r loc (cls :: rest) seen root = .error e := by
  rw [walkClasses_cons]; simp only [h1, hs, if_false, h2, h3]

theorem Walk.prefix_error {r : Inv} {loc : Option (List Str)} {pre seen : List Str} {root : NodeM}
    {seen1 : List Str} {root1 : NodeM} {tr : List TraceEntry}
    (h : Walk r loc pre seen root seen1 root1 tr) {n : Nat} {l2 : List Str} {e : Err}
    (he : walkClasses n r loc l2 seen1 root1 = .error e) (hne : e ≠ .fuel) :
    ∃ m, ∀ m', m ≤ m' → walkClasses m' r loc (pre ++ l2) seen root = .error e := by
  suffices ∃ m, walkClasses m r loc (pre ++ l2) seen root = .error e by
    obtain ⟨m, hm⟩ := this
    exact ⟨m, fun m' hle => walkClasses_mono_le hle hm (by simpa using hne)⟩
  induction h with
  | nil => exact ⟨n, he⟩
  | seen h1 hs _ ih =>
    obtain ⟨m, hm⟩ := ih he
    exact ⟨m+1, by rw [List.cons_append, walkClasses_skip h1 (Or.inl hs)]; exact hm⟩
  | ignored h1 hs h2 _ ih =>
    obtain ⟨m, hm⟩ := ih he
    exact ⟨m+1, by rw [List.cons_append, walkClasses_skip h1 (Or.inr h2)]; exact hm⟩
  | @load loc cls rest seen root c cn s1 r1 t1 r2 s' r' t2 h1 hs h2 hw hm _ _ ih2 =>
    obtain ⟨m2, hm2⟩ := ih2 he
    obtain ⟨m1, hm1⟩ := hw.complete
    have hr : renderImpl (m1+1) r cn (seen ++ [c]) root = .ok (s1, r2) := by
      rw [renderImpl_succ, walkClasses_ok_iff.2 ⟨_, hm1⟩]; simp only [hm]
    refine ⟨max (m1+1) m2 + 1, ?_⟩
    rw [List.cons_append, walkClasses_cons]
    simp only [h1, hs, if_false, h2]
    rw [renderImpl_mono_le (Nat.le_max_left _ _) hr (by simp)]
    simp only []
    exact walkClasses_mono_le (Nat.le_max_right _ _) hm2 (by simpa using hne)

theorem Walk.append {r : Inv} {loc : Option (List Str)} {l1 seen : List Str} {root : NodeM}
    {seen1 : List Str} {root1 : NodeM} {tr1 : List TraceEntry}
    (h : Walk r loc l1 seen root seen1 root1 tr1) {l2 seen2 : List Str} {root2 : NodeM} {tr2 : List TraceEntry}
    (h' : Walk r loc l2 seen1 root1 seen2 root2 tr2) :
    Walk r loc (l1 ++ l2) seen root seen2 root2 (tr1 ++ tr2) := by
  induction h with
  | nil => exact h'
  | seen h1 hs _ ih => exact Walk.seen h1 hs (ih h')
  | ignored h1 hs h2 _ ih => exact Walk.ignored h1 hs h2 (ih h')
  | load h1 hs h2 hw hm _ _ ih2 =>
    have := Walk.load h1 hs h2 hw hm (ih2 h')
    simpa [List.append_assoc] using this

/-! ## `renderNodeSrc` unpacked -/

theorem renderNodeSrc_eqB (fuel : Nat) (r : Inv) (nmeta : MetaM) (src : ClassSrc) :
    renderNodeSrc fuel r nmeta src =
      bind1 (NodeM.ofSrc none src) fun self => bind1 (nmeta.asReclass r.cfg) fun rc =>
        bind1 (({} : Mapping).insert (.str Extracted.reclassKey.toList) rc.toValue) fun bp =>
          bind2 (renderImpl fuel r { classes := self.classes, params := bp } [] {}) fun _ root =>
            bind1 (mergeInto self root) fun fin => bind1 (renderParamsF defaultFuel fin.params) fun p =>
              .ok { nmeta := nmeta, apps := fin.apps.items, classes := fin.classes.items, params := p } := by
  unfold renderNodeSrc
  rcases NodeM.ofSrc none src with _ | self
  · rfl
  rcases nmeta.asReclass r.cfg with _ | rc
  · rfl
  dsimp only [bind1]
  rcases ({} : Mapping).insert (.str Extracted.reclassKey.toList) rc.toValue with _ | bp
  · rfl
  dsimp only
  rcases renderImpl fuel r { classes := self.classes, params := bp } [] {} with _ | ⟨_, root⟩
  · rfl
  dsimp only [bind2]
  rcases mergeInto self root with _ | fin
  · rfl
  dsimp only
  rcases renderParamsF defaultFuel fin.params with _ | _ <;> rfl

theorem renderNodeSrc_error_of_walk {fuel : Nat} {r : Inv} {nmeta : MetaM} {src : ClassSrc}
    {self : NodeM} {rc bp : Mapping} {e : Err}
    (h1 : NodeM.ofSrc none src = .ok self) (h2 : nmeta.asReclass r.cfg = .ok rc)
    (h3 : ({} : Mapping).insert (.str Extracted.reclassKey.toList) rc.toValue = .ok bp)
    (h4 : renderImpl fuel r { classes := self.classes, params := bp } [] {} = .error e) :
    renderNodeSrc fuel r nmeta src = .error e := by
  simp only [renderNodeSrc_eqB, h1, h2, bind1, h3, h4, bind2]

theorem renderNodeSrc_ok {fuel : Nat} {r : Inv} {nmeta : MetaM} {src : ClassSrc} {info : NodeInfoM}
    (h : renderNodeSrc fuel r nmeta src = .ok info) :
    ∃ self rc bp seen root fin,
      NodeM.ofSrc none src = .ok self ∧ nmeta.asReclass r.cfg = .ok rc ∧
      ({} : Mapping).insert (.str Extracted.reclassKey.toList) rc.toValue = .ok bp ∧
      renderImpl fuel r { classes := self.classes, params := bp } [] {} = .ok (seen, root) ∧
      mergeInto self root = .ok fin ∧
      renderParamsF defaultFuel fin.params = .ok info.params ∧
      info.apps = fin.apps.items ∧ info.classes = fin.classes.items ∧ info.nmeta = nmeta := by
  simp only [renderNodeSrc_eqB, bind1_ok, bind2_ok] at h
  obtain ⟨self, e1, rc, e2, bp, e3, seen, root, e4, fin, e5, p, e6, h⟩ := h
  cases h
  exact ⟨self, rc, bp, seen, root, fin, e1, e2, e3, e4, e5, e6, rfl, rfl, rfl⟩

theorem renderNodeSrc_of_parts {fuel : Nat} {r : Inv} {nmeta : MetaM} {src : ClassSrc}
    {self : NodeM} {rc bp : Mapping} {seen : List Str} {root fin : NodeM} {p : Mapping}
    (h1 : NodeM.ofSrc none src = .ok self) (h2 : nmeta.asReclass r.cfg = .ok rc)
    (h3 : ({} : Mapping).insert (.str Extracted.reclassKey.toList) rc.toValue = .ok bp)
    (h4 : renderImpl fuel r { classes := self.classes, params := bp } [] {} = .ok (seen, root))
    (h5 : mergeInto self root = .ok fin) (h6 : renderParamsF defaultFuel fin.params = .ok p) :
    renderNodeSrc fuel r nmeta src =
      .ok { nmeta := nmeta, apps := fin.apps.items, classes := fin.classes.items, params := p } := by
  simp only [renderNodeSrc_eqB, h1, h2, bind1, h3, h4, bind2, h5, h6]

/-! ## A skipped entry, at the level of `renderImpl` -/

theorem renderImpl_insert_skipped {r : Inv} {self self' : NodeM} {cls c : Str} {pre rest : List Str}
    (hloc : self.loc = self'.loc) (hp : self.params = self'.params) (ha : self.apps = self'.apps)
    (hc : self.classes.items = pre ++ cls :: rest) (hc' : self'.classes.items = pre ++ rest)
    (h1 : ∀ params, resolveClassName defaultFuel params cls = .ok c)
    (h2 : readClass r self.loc c = .ok none)
    {n : Nat} {seen : List Str} {root : NodeM} :
    (∀ e, renderImpl n r self' seen root = .error e → e ≠ .fuel →
       renderImpl (n+1) r self seen root = .error e) ∧
    (∀ seen' root', renderImpl n r self' seen root = .ok (seen', root') →
       ∃ root'', renderImpl (n+1) r self seen root = .ok (seen', root'') ∧
         root''.params = root'.params ∧ root''.apps = root'.apps ∧ root''.loc = root'.loc ∧
         ∀ x, x ∈ root''.classes.items ↔ x = cls ∨ x ∈ root'.classes.items) := by
  cases n with
  | zero => exact ⟨fun e h hne => absurd (by cases h; rfl) hne, fun _ _ h => (nomatch h)⟩
  | succ m =>
    -- both sides walk the include list first, and unless that runs out of fuel the two walks agree
    have hW : walkClasses m r self.loc (pre ++ rest) seen root ≠ .error .fuel →
        renderImpl (m+2) r self seen root =
          bind2 (walkClasses m r self.loc (pre ++ rest) seen root) fun s r1 =>
            bind1 (mergeInto self r1) fun x => .ok (s, x) := fun hne => by
      rw [renderImpl_succB, hc, walkClasses_insert_skipped h1 h2 pre rest hne]
    rw [renderImpl_succB, hc', ← hloc]
    rcases hw : walkClasses m r self.loc (pre ++ rest) seen root with e' | ⟨s1, r1⟩
    · rw [hw] at hW
      exact ⟨fun e h hne => by cases h; exact hW (by simpa using hne), fun _ _ h => (nomatch h)⟩
    · rw [hW (by rw [hw]; nofun), hw]
      dsimp only [bind2]
      rw [mergeInto_eqB, mergeInto_eqB, hp]
      rcases r1.params.merge self'.params with e' | p
      · exact ⟨fun e h _ => h, fun _ _ h => (nomatch h)⟩
      · refine ⟨fun _ h => (nomatch h), fun s ro h => ?_⟩
        cases h
        refine ⟨_, rfl, rfl, by rw [ha], rfl, fun x => ?_⟩
        simp only [UList.mem_merge, hc, hc', List.mem_append, List.mem_cons, or_left_comm]

theorem renderNodeSrc_insert_skipped {r : Inv} {nmeta : MetaM} {src src' : ClassSrc} {self self' : NodeM}
    {cls c : Str} {pre rest : List Str}
    (hs : NodeM.ofSrc none src = .ok self) (hs' : NodeM.ofSrc none src' = .ok self')
    (hp : self.params = self'.params) (ha : self.apps = self'.apps)
    (hc : self.classes.items = pre ++ cls :: rest) (hc' : self'.classes.items = pre ++ rest)
    (h1 : ∀ params, resolveClassName defaultFuel params cls = .ok c)
    (h2 : readClass r none c = .ok none)
    {fuel : Nat} {info' : NodeInfoM} (h : renderNodeSrc fuel r nmeta src' = .ok info') :
    ∃ info, renderNodeSrc (fuel+1) r nmeta src = .ok info ∧ info.params = info'.params ∧
      info.apps = info'.apps ∧ info.nmeta = info'.nmeta ∧
      ∀ x, x ∈ info.classes ↔ x = cls ∨ x ∈ info'.classes := by
  obtain ⟨self0, rc, bp, seen, root, fin, e1, e2, e3, e4, e5, e6, e7, e8, e9⟩ := renderNodeSrc_ok h
  rw [hs'] at e1; cases e1
  obtain ⟨root2, hr, hpp, haa, hll, hcc⟩ :=
    (renderImpl_insert_skipped (self := { classes := self.classes, params := bp })
      (self' := { classes := self'.classes, params := bp }) (cls := cls) (c := c) (pre := pre) (rest := rest)
      rfl rfl rfl hc hc' h1 h2).2 _ _ e4
  obtain ⟨m1, m2, m3, m4⟩ := mergeInto_ok e5
  have hm : root2.params.merge self.params = .ok fin.params := by rw [hpp, hp]; exact m1
  refine ⟨_, renderNodeSrc_of_parts hs e2 e3 hr
    ((mergeInto_eqB ..).trans (bind1_ok.2 ⟨_, hm, rfl⟩)) e6, rfl, ?_, e9.symm, ?_⟩
  · simp only [e7, m2, haa, ha]
  · intro x
    simp only [e8, m3, UList.mem_merge, hcc, hc, hc', List.mem_append, List.mem_cons, or_assoc, or_left_comm,
      or_self_left]

end Reclass
