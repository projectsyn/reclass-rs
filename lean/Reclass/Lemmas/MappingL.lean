/-
  Lemmas about `Reclass.Model.Mapping`: `insertImpl` by its three outcomes, and what a merge
  keeps invariant.
-/
import Reclass.Model.Mapping
import Reclass.Lemmas.Lists
namespace Reclass

/-! ### Left folds in `Except`

`Mapping.mergeEntries`, `DeepMerge.mergeLayers` and `flatVl` are left folds in `Except`
(`mergeEntries_eq_foldlM`, …): what holds of every such fold is proved here once. -/

theorem foldlM_cons_ok {α β ε : Type} {f : β → α → Except ε β} {a : α} {l : List α} {b b' : β} :
    (a :: l).foldlM f b = .ok b' ↔ ∃ b1, f b a = .ok b1 ∧ l.foldlM f b1 = .ok b' := by
  rw [List.foldlM_cons]
  cases f b a <;> simp [bind, Except.bind]

theorem foldlM_append_ok {α β ε : Type} {f : β → α → Except ε β} {l₁ l₂ : List α} {b b' : β} :
    (l₁ ++ l₂).foldlM f b = .ok b' ↔ ∃ b1, l₁.foldlM f b = .ok b1 ∧ l₂.foldlM f b1 = .ok b' := by
  rw [List.foldlM_append]
  cases l₁.foldlM f b <;> simp [bind, Except.bind]

theorem foldlM_ok_inv {α β ε : Type} {f : β → α → Except ε β} (P : β → Prop) {l : List α}
    {b b' : β} (step : ∀ b a b1, a ∈ l → P b → f b a = .ok b1 → P b1)
    (h : l.foldlM f b = .ok b') (h0 : P b) : P b' := by
  induction l generalizing b with
  | nil => cases h; exact h0
  | cons a l ih =>
    obtain ⟨b1, h1, h2⟩ := foldlM_cons_ok.1 h
    exact ih (fun b a b1 ha => step b a b1 (List.mem_cons_of_mem _ ha)) h2
      (step b a b1 List.mem_cons_self h0 h1)

theorem foldlM_error_split {α β ε : Type} {f : β → α → Except ε β} {l : List α} {b : β} {e : ε}
    (h : l.foldlM f b = .error e) :
    ∃ pre a post b1, l = pre ++ a :: post ∧ pre.foldlM f b = .ok b1 ∧ f b1 a = .error e := by
  induction l generalizing b with
  | nil => cases h
  | cons a l ih =>
    rw [List.foldlM_cons] at h
    cases h1 : f b a with
    | error e1 =>
      rw [h1] at h; cases h
      exact ⟨[], a, l, b, rfl, rfl, h1⟩
    | ok b1 =>
      rw [h1] at h
      obtain ⟨pre, a', post, b2, rfl, hp, hf⟩ := ih h
      exact ⟨a :: pre, a', post, b2, rfl, by rw [List.foldlM_cons, h1]; exact hp, hf⟩

/-! ### `lookup` -/

@[simp] theorem lookup_nil (k : Key) : lookup k [] = none := rfl

theorem lookup_cons (k k' : Key) (v : Value) (es : List (Key × Value)) :
    lookup k ((k', v) :: es) = if k' = k then some v else lookup k es := rfl

theorem lookup_cons_self (k : Key) (v : Value) (es : List (Key × Value)) :
    lookup k ((k, v) :: es) = some v := by simp [lookup]

theorem lookup_cons_ne {k k' : Key} (h : k' ≠ k) (v : Value) (es : List (Key × Value)) :
    lookup k ((k', v) :: es) = lookup k es := by simp [lookup, h]

theorem lookup_append (k : Key) (es es' : List (Key × Value)) :
    lookup k (es ++ es') = (lookup k es).or (lookup k es') := by
  induction es with
  | nil => simp
  | cons e es ih =>
    obtain ⟨k', v'⟩ := e
    simp only [List.cons_append, lookup]
    by_cases h : k' = k
    · simp [h]
    · simp [h, ih]

theorem lookup_append_of_none {k : Key} {es : List (Key × Value)} (h : lookup k es = none)
    (es' : List (Key × Value)) : lookup k (es ++ es') = lookup k es' := by
  rw [lookup_append, h]; rfl

theorem lookup_append_of_some {k : Key} {es : List (Key × Value)} {v : Value}
    (h : lookup k es = some v) (es' : List (Key × Value)) : lookup k (es ++ es') = some v := by
  rw [lookup_append, h]; rfl

theorem lookup_append_single_self {k : Key} {es : List (Key × Value)} (h : lookup k es = none)
    (v : Value) : lookup k (es ++ [(k, v)]) = some v := by
  rw [lookup_append_of_none h]; simp [lookup]

theorem lookup_append_single_ne {k k' : Key} (hne : k' ≠ k) (es : List (Key × Value)) (v : Value) :
    lookup k (es ++ [(k', v)]) = lookup k es := by
  rw [lookup_append]
  simp [lookup, hne]

theorem lookup_eq_none_iff {k : Key} {es : List (Key × Value)} :
    lookup k es = none ↔ k ∉ es.map Prod.fst := by
  induction es with
  | nil => simp
  | cons e es ih =>
    obtain ⟨k', v'⟩ := e
    simp only [lookup, List.map_cons, List.mem_cons, not_or]
    by_cases h : k' = k
    · simp [h]
    · simp only [h, if_false, ih]
      constructor
      · intro h2; exact ⟨fun e => h e.symm, h2⟩
      · intro h2; exact h2.2

theorem lookup_isSome_iff {k : Key} {es : List (Key × Value)} :
    (lookup k es).isSome ↔ k ∈ es.map Prod.fst := by
  cases h : lookup k es with
  | none => simp [lookup_eq_none_iff.1 h]
  | some v =>
    simp only [Option.isSome_some, true_iff]
    apply Classical.byContradiction
    intro hn
    rw [lookup_eq_none_iff.2 hn] at h
    cases h

theorem hasKey_iff {k : Key} {es : List (Key × Value)} : hasKey k es = true ↔ k ∈ es.map Prod.fst :=
  lookup_isSome_iff

theorem lookup_mem_entry {k : Key} {v : Value} {es : List (Key × Value)} (h : lookup k es = some v) :
    (k, v) ∈ es := by
  induction es with
  | nil => simp at h
  | cons e es ih =>
    obtain ⟨k', v'⟩ := e
    simp only [lookup] at h
    by_cases hk : k' = k
    · simp only [hk, if_true, Option.some.injEq] at h
      subst hk; subst h; exact List.mem_cons_self
    · simp only [hk, if_false] at h
      exact List.mem_cons_of_mem _ (ih h)

theorem mem_keys_of_mem {k : Key} {v : Value} {es : List (Key × Value)} (h : (k, v) ∈ es) :
    k ∈ es.map Prod.fst := List.mem_map.2 ⟨(k, v), h, rfl⟩

theorem lookup_of_mem_nodup {k : Key} {v : Value} {es : List (Key × Value)}
    (hn : (es.map Prod.fst).Nodup) (h : (k, v) ∈ es) : lookup k es = some v := by
  induction es with
  | nil => simp at h
  | cons e es ih =>
    obtain ⟨k', v'⟩ := e
    simp only [List.map_cons, List.nodup_cons] at hn
    rcases List.mem_cons.1 h with heq | hmem
    · cases heq; exact lookup_cons_self _ _ _
    · have hne : k' ≠ k := by
        intro e; subst e; exact hn.1 (mem_keys_of_mem hmem)
      rw [lookup_cons_ne hne]; exact ih hn.2 hmem

theorem lookup_isSome_of_mem {k : Key} {v : Value} {es : List (Key × Value)} (h : (k, v) ∈ es) :
    ∃ w, lookup k es = some w := by
  have := lookup_isSome_iff.2 (mem_keys_of_mem h)
  exact Option.isSome_iff_exists.1 this

/-! ### `replaceVal` -/

@[simp] theorem replaceVal_nil (k : Key) (v : Value) : replaceVal k v [] = [] := rfl

theorem replaceVal_keys (k : Key) (v : Value) (es : List (Key × Value)) :
    (replaceVal k v es).map Prod.fst = es.map Prod.fst := by
  induction es with
  | nil => rfl
  | cons e es ih =>
    obtain ⟨k', v'⟩ := e
    simp only [replaceVal]
    by_cases h : k' = k
    · simp [h]
    · simp [h, ih]

theorem replaceVal_length (k : Key) (v : Value) (es : List (Key × Value)) :
    (replaceVal k v es).length = es.length := by
  have := congrArg List.length (replaceVal_keys k v es)
  simpa using this

theorem lookup_replaceVal_self {k : Key} {es : List (Key × Value)} {old : Value}
    (h : lookup k es = some old) (v : Value) : lookup k (replaceVal k v es) = some v := by
  induction es with
  | nil => simp at h
  | cons e es ih =>
    obtain ⟨k', v'⟩ := e
    simp only [lookup, replaceVal] at h ⊢
    by_cases hk : k' = k
    · simp [hk, lookup]
    · simp only [hk, if_false] at h ⊢
      simp only [lookup, hk, if_false]
      exact ih h

theorem lookup_replaceVal_ne {k k1 : Key} (hne : k1 ≠ k) (v : Value) (es : List (Key × Value)) :
    lookup k1 (replaceVal k v es) = lookup k1 es := by
  induction es with
  | nil => rfl
  | cons e es ih =>
    obtain ⟨k', v'⟩ := e
    simp only [replaceVal]
    by_cases hk : k' = k
    · subst hk
      have : k' ≠ k1 := fun e => hne e.symm
      simp [lookup, this]
    · simp only [hk, if_false, lookup, ih]

theorem replaceVal_of_none {k : Key} {es : List (Key × Value)} (h : lookup k es = none) (v : Value) :
    replaceVal k v es = es := by
  induction es with
  | nil => rfl
  | cons e es ih =>
    obtain ⟨k', v'⟩ := e
    simp only [lookup] at h
    by_cases hk : k' = k
    · simp [hk] at h
    · simp only [hk, if_false] at h
      simp [replaceVal, hk, ih h]

/-! ### `setInsert` -/

theorem mem_setInsert_or {x k : Key} {s : List Key} : x ∈ setInsert k s ↔ x = k ∨ x ∈ s := by
  unfold setInsert
  by_cases h : k ∈ s
  · simp only [h, if_true]
    constructor
    · intro hx; exact Or.inr hx
    · intro hx; rcases hx with rfl | hx
      · exact h
      · exact hx
  · simp only [h, if_false, List.mem_append, List.mem_singleton]
    constructor
    · intro hx; exact hx.symm
    · intro hx; exact hx.symm

theorem mem_setInsert_self (k : Key) (s : List Key) : k ∈ setInsert k s :=
  mem_setInsert_or.2 (Or.inl rfl)

theorem mem_setInsert_of_mem {x : Key} (k : Key) {s : List Key} (h : x ∈ s) : x ∈ setInsert k s :=
  mem_setInsert_or.2 (Or.inr h)

theorem mem_setInsert_ne {x k : Key} (hne : x ≠ k) {s : List Key} : x ∈ setInsert k s ↔ x ∈ s := by
  rw [mem_setInsert_or]; simp [hne]

theorem setInsert_nodup {k : Key} {s : List Key} (h : s.Nodup) : (setInsert k s).Nodup := by
  unfold setInsert
  split
  · exact h
  · exact nodup_append_singleton h ‹_›

/-- The flag sets after an insert are `setInsert`s under a condition. -/
theorem mem_ite_setInsert {c : Prop} [Decidable c] {x k : Key} {s : List Key} :
    x ∈ (if c then setInsert k s else s) ↔ x ∈ s ∨ (x = k ∧ c) := by
  split <;> simp [mem_setInsert_or, or_comm, *]

theorem ite_setInsert_nodup {c : Prop} [Decidable c] {k : Key} {s : List Key} (h : s.Nodup) :
    (if c then setInsert k s else s).Nodup := by
  split
  · exact setInsert_nodup h
  · exact h

/-! ### `Key.stripPrefix` -/

theorem constMarker_eq : Extracted.constMarker = '=' := rfl
theorem overrideMarker_eq : Extracted.overrideMarker = '~' := rfl

theorem ofChar_const : KeyPrefix.ofChar '=' = some .const := by decide
theorem ofChar_override : KeyPrefix.ofChar '~' = some .override := by decide

theorem ofChar_eq_none {c : Char} (h1 : c ≠ '=') (h2 : c ≠ '~') : KeyPrefix.ofChar c = none := by
  simp [KeyPrefix.ofChar, constMarker_eq, overrideMarker_eq, h1, h2]

theorem ofChar_eq_some_const {c : Char} : KeyPrefix.ofChar c = some .const ↔ c = '=' := by
  unfold KeyPrefix.ofChar
  rw [constMarker_eq, overrideMarker_eq]
  by_cases h1 : c = '='
  · simp [h1]
  · by_cases h2 : c = '~' <;> simp [h1, h2]

theorem ofChar_eq_some_override {c : Char} : KeyPrefix.ofChar c = some .override ↔ c = '~' := by
  unfold KeyPrefix.ofChar
  rw [constMarker_eq, overrideMarker_eq]
  by_cases h1 : c = '='
  · subst h1; simp
  · by_cases h2 : c = '~' <;> simp [h1, h2]

theorem stripPrefix_nonstr {k : Key} (h : ∀ s, k ≠ .str s) : k.stripPrefix = (k, none) := by
  cases k with
  | str s => exact absurd rfl (h s)
  | lit s => rfl
  | bool b => rfl
  | num n => rfl
  | null => rfl

theorem stripPrefix_lit (s : Str) : (Key.lit s).stripPrefix = (.lit s, none) := rfl
theorem stripPrefix_bool (b : Bool) : (Key.bool b).stripPrefix = (.bool b, none) := rfl
theorem stripPrefix_num (n : Num) : (Key.num n).stripPrefix = (.num n, none) := rfl
theorem stripPrefix_null : Key.null.stripPrefix = (.null, none) := rfl
theorem stripPrefix_str_nil : (Key.str []).stripPrefix = (.str [], none) := rfl

theorem stripPrefix_str_plain {c : Char} (cs : Str) (h1 : c ≠ '=') (h2 : c ≠ '~') :
    (Key.str (c :: cs)).stripPrefix = (.str (c :: cs), none) := by
  simp [Key.stripPrefix, ofChar_eq_none h1 h2]

theorem stripPrefix_str_of_head {s : Str} (h1 : s.head? ≠ some '=') (h2 : s.head? ≠ some '~') :
    (Key.str s).stripPrefix = (.str s, none) := by
  cases s with
  | nil => rfl
  | cons c cs =>
    apply stripPrefix_str_plain
    · intro e; subst e; simp at h1
    · intro e; subst e; simp at h2

theorem stripPrefix_const (cs : Str) : (Key.str ('=' :: cs)).stripPrefix = (.str cs, some .const) := by
  simp [Key.stripPrefix, ofChar_const]

theorem stripPrefix_override (cs : Str) :
    (Key.str ('~' :: cs)).stripPrefix = (.str cs, some .override) := by
  simp [Key.stripPrefix, ofChar_override]

theorem stripPrefix_prefix_some {k : Key} {p : KeyPrefix} (h : k.stripPrefix.2 = some p) :
    ∃ c cs, k = .str (c :: cs) ∧ KeyPrefix.ofChar c = some p ∧ k.stripPrefix.1 = .str cs := by
  cases k with
  | str s =>
    cases s with
    | nil => simp [Key.stripPrefix] at h
    | cons c cs =>
      refine ⟨c, cs, rfl, ?_⟩
      simp only [Key.stripPrefix] at h ⊢
      cases hc : KeyPrefix.ofChar c with
      | none => simp [hc] at h
      | some q => simp [hc] at h ⊢; exact h
  | lit s => simp [Key.stripPrefix] at h
  | bool b => simp [Key.stripPrefix] at h
  | num n => simp [Key.stripPrefix] at h
  | null => simp [Key.stripPrefix] at h

/-! ### `Mapping.insertImpl`: the three outcomes -/

/-- `insertImpl` with the pattern-matching `let` spelled out via projections. -/
theorem insertImpl_eq (m : Mapping) (k : Key) (v : Value) (fc fo : Bool) :
    m.insertImpl k v fc fo =
      match lookup k.stripPrefix.1 m.es with
      | none =>
        .ok { es := m.es ++ [(k.stripPrefix.1, v)],
              ck := if fc then setInsert k.stripPrefix.1
                        (if k.stripPrefix.2 = some .const then setInsert k.stripPrefix.1 m.ck else m.ck)
                    else (if k.stripPrefix.2 = some .const then setInsert k.stripPrefix.1 m.ck else m.ck),
              ok := if fo then setInsert k.stripPrefix.1
                        (if k.stripPrefix.2 = some .override then setInsert k.stripPrefix.1 m.ok else m.ok)
                    else (if k.stripPrefix.2 = some .override then setInsert k.stripPrefix.1 m.ok else m.ok) }
      | some old =>
        if k.stripPrefix.1 ∈ m.ck then .error (.constKey k.stripPrefix.1)
        else
          .ok { es := if fo || k.stripPrefix.2 = some .override then replaceVal k.stripPrefix.1 v m.es
                      else replaceVal k.stripPrefix.1 (combine old v) m.es,
                ck := if fc || k.stripPrefix.2 = some .const then setInsert k.stripPrefix.1 m.ck else m.ck,
                ok := m.ok } := rfl

theorem insertImpl_absent {m : Mapping} {k : Key} (v : Value) (fc fo : Bool)
    (h : lookup k.stripPrefix.1 m.es = none) :
    m.insertImpl k v fc fo =
      .ok { es := m.es ++ [(k.stripPrefix.1, v)],
            ck := if fc then setInsert k.stripPrefix.1
                      (if k.stripPrefix.2 = some .const then setInsert k.stripPrefix.1 m.ck else m.ck)
                  else (if k.stripPrefix.2 = some .const then setInsert k.stripPrefix.1 m.ck else m.ck),
            ok := if fo then setInsert k.stripPrefix.1
                      (if k.stripPrefix.2 = some .override then setInsert k.stripPrefix.1 m.ok else m.ok)
                  else (if k.stripPrefix.2 = some .override then setInsert k.stripPrefix.1 m.ok else m.ok) } := by
  rw [insertImpl_eq, h]

theorem insertImpl_const {m : Mapping} {k : Key} {old : Value} (v : Value) (fc fo : Bool)
    (h : lookup k.stripPrefix.1 m.es = some old) (hc : k.stripPrefix.1 ∈ m.ck) :
    m.insertImpl k v fc fo = .error (.constKey k.stripPrefix.1) := by
  rw [insertImpl_eq, h]; simp only [hc, if_true]

theorem insertImpl_present {m : Mapping} {k : Key} {old : Value} (v : Value) (fc fo : Bool)
    (h : lookup k.stripPrefix.1 m.es = some old) (hc : k.stripPrefix.1 ∉ m.ck) :
    m.insertImpl k v fc fo =
      .ok { es := if fo || k.stripPrefix.2 = some .override then replaceVal k.stripPrefix.1 v m.es
                  else replaceVal k.stripPrefix.1 (combine old v) m.es,
            ck := if fc || k.stripPrefix.2 = some .const then setInsert k.stripPrefix.1 m.ck else m.ck,
            ok := m.ok } := by
  rw [insertImpl_eq, h]; simp only [hc, if_false]

theorem insertImpl_ok_cases {m m' : Mapping} {k : Key} {v : Value} {fc fo : Bool}
    (h : m.insertImpl k v fc fo = .ok m') :
    lookup k.stripPrefix.1 m.es = none ∨
      ((∃ old, lookup k.stripPrefix.1 m.es = some old) ∧ k.stripPrefix.1 ∉ m.ck) := by
  cases hl : lookup k.stripPrefix.1 m.es with
  | none => exact Or.inl rfl
  | some old =>
    refine Or.inr ⟨⟨old, rfl⟩, ?_⟩
    intro hc
    rw [insertImpl_const v fc fo hl hc] at h
    cases h

theorem insertImpl_keys {m m' : Mapping} {k : Key} {v : Value} {fc fo : Bool}
    (h : m.insertImpl k v fc fo = .ok m') :
    m'.es.map Prod.fst =
      if (lookup k.stripPrefix.1 m.es).isSome then m.es.map Prod.fst
      else m.es.map Prod.fst ++ [k.stripPrefix.1] := by
  cases hl : lookup k.stripPrefix.1 m.es with
  | none =>
    rw [insertImpl_absent v fc fo hl] at h
    injection h with h; subst h
    simp
  | some old =>
    have hc : k.stripPrefix.1 ∉ m.ck := by
      intro hc; rw [insertImpl_const v fc fo hl hc] at h; cases h
    rw [insertImpl_present v fc fo hl hc] at h
    injection h with h; subst h
    simp only [Option.isSome_some, if_true]
    split <;> exact replaceVal_keys _ _ _

/-! ### `mergeEntries` is a left fold of `insertImpl` -/

theorem mergeEntries_eq_foldlM (ock ook : List Key) (es : List (Key × Value)) (m : Mapping) :
    m.mergeEntries ock ook es =
      es.foldlM (fun m kv => m.insertImpl kv.1 kv.2 (decide (kv.1 ∈ ock)) (decide (kv.1 ∈ ook))) m := by
  induction es generalizing m with
  | nil => rfl
  | cons kv es ih =>
    obtain ⟨k, v⟩ := kv
    rw [List.foldlM_cons, Mapping.mergeEntries]
    cases m.insertImpl k v (decide (k ∈ ock)) (decide (k ∈ ook)) with
    | error e => rfl
    | ok m1 => exact ih m1

/-! ### Key uniqueness is an invariant -/

theorem insertImpl_keys_nodup {m m' : Mapping} {k : Key} {v : Value} {fc fo : Bool}
    (hn : (m.es.map Prod.fst).Nodup) (h : m.insertImpl k v fc fo = .ok m') :
    (m'.es.map Prod.fst).Nodup := by
  rw [insertImpl_keys h]
  cases hl : lookup k.stripPrefix.1 m.es with
  | some old => exact hn
  | none => exact nodup_append_singleton hn (lookup_eq_none_iff.1 hl)

theorem mergeEntries_keys_nodup (ock ook : List Key) (es : List (Key × Value)) :
    ∀ {m m' : Mapping}, (m.es.map Prod.fst).Nodup → m.mergeEntries ock ook es = .ok m' →
      (m'.es.map Prod.fst).Nodup := by
  intro m m' hn h
  rw [mergeEntries_eq_foldlM] at h
  exact foldlM_ok_inv (fun m => (m.es.map Prod.fst).Nodup)
    (fun _ _ _ _ hn h1 => insertImpl_keys_nodup hn h1) h hn

theorem merge_keys_nodup {m other m' : Mapping} (hn : (m.es.map Prod.fst).Nodup)
    (h : m.merge other = .ok m') : (m'.es.map Prod.fst).Nodup :=
  mergeEntries_keys_nodup _ _ _ hn h

theorem insertImpl_flags_nodup {m m' : Mapping} {k : Key} {v : Value} {fc fo : Bool}
    (hc : m.ck.Nodup) (ho : m.ok.Nodup) (h : m.insertImpl k v fc fo = .ok m') :
    m'.ck.Nodup ∧ m'.ok.Nodup := by
  rcases insertImpl_ok_cases h with hl | ⟨⟨old, hl⟩, hk⟩
  · rw [insertImpl_absent v fc fo hl] at h; cases h
    exact ⟨ite_setInsert_nodup (ite_setInsert_nodup hc), ite_setInsert_nodup (ite_setInsert_nodup ho)⟩
  · rw [insertImpl_present v fc fo hl hk] at h; cases h
    exact ⟨ite_setInsert_nodup hc, ho⟩

/-! ### `insertImpl` is local to the stripped key, and flags only grow -/

theorem insertImpl_mem_ck {m m' : Mapping} {k : Key} {v : Value} {fc fo : Bool}
    (h : m.insertImpl k v fc fo = .ok m') (x : Key) :
    x ∈ m'.ck ↔
      x ∈ m.ck ∨ (x = k.stripPrefix.1 ∧ (k.stripPrefix.2 = some .const ∨ fc = true)) := by
  rcases insertImpl_ok_cases h with hl | ⟨⟨old, hl⟩, hk⟩
  · rw [insertImpl_absent v fc fo hl] at h; cases h
    simp only [mem_ite_setInsert, or_assoc, ← and_or_left]
  · rw [insertImpl_present v fc fo hl hk] at h; cases h
    simp only [mem_ite_setInsert, Bool.or_eq_true, decide_eq_true_eq, or_comm]

theorem insertImpl_mem_ok {m m' : Mapping} {k : Key} {v : Value} {fc fo : Bool}
    (h : m.insertImpl k v fc fo = .ok m') (x : Key) :
    x ∈ m'.ok ↔
      x ∈ m.ok ∨ (x = k.stripPrefix.1 ∧ lookup k.stripPrefix.1 m.es = none ∧
        (k.stripPrefix.2 = some .override ∨ fo = true)) := by
  rcases insertImpl_ok_cases h with hl | ⟨⟨old, hl⟩, hk⟩
  · rw [insertImpl_absent v fc fo hl] at h; cases h
    simp only [mem_ite_setInsert, or_assoc, ← and_or_left, hl, true_and]
  · rw [insertImpl_present v fc fo hl hk] at h; cases h
    simp [hl]

theorem insertImpl_lookup_ne {m m' : Mapping} {k k1 : Key} {v : Value} {fc fo : Bool}
    (h : m.insertImpl k v fc fo = .ok m') (hne : k1 ≠ k.stripPrefix.1) :
    lookup k1 m'.es = lookup k1 m.es := by
  rcases insertImpl_ok_cases h with hl | ⟨⟨old, hl⟩, hk⟩
  · rw [insertImpl_absent v fc fo hl] at h; cases h
    exact lookup_append_single_ne (fun e => hne e.symm) _ _
  · rw [insertImpl_present v fc fo hl hk] at h; cases h
    dsimp only
    split <;> exact lookup_replaceVal_ne hne _ _

theorem insertImpl_ck_ne {m m' : Mapping} {k k1 : Key} {v : Value} {fc fo : Bool}
    (h : m.insertImpl k v fc fo = .ok m') (hne : k1 ≠ k.stripPrefix.1) :
    k1 ∈ m'.ck ↔ k1 ∈ m.ck := by
  rw [insertImpl_mem_ck h]; simp [hne]

theorem insertImpl_ok_ne {m m' : Mapping} {k k1 : Key} {v : Value} {fc fo : Bool}
    (h : m.insertImpl k v fc fo = .ok m') (hne : k1 ≠ k.stripPrefix.1) :
    k1 ∈ m'.ok ↔ k1 ∈ m.ok := by
  rw [insertImpl_mem_ok h]; simp [hne]

theorem insertImpl_ck_mono {m m' : Mapping} {k k0 : Key} {v : Value} {fc fo : Bool}
    (h : m.insertImpl k v fc fo = .ok m') (hk : k0 ∈ m.ck) : k0 ∈ m'.ck :=
  (insertImpl_mem_ck h k0).2 (.inl hk)

theorem insertImpl_ok_mono {m m' : Mapping} {k k0 : Key} {v : Value} {fc fo : Bool}
    (h : m.insertImpl k v fc fo = .ok m') (hk : k0 ∈ m.ok) : k0 ∈ m'.ok :=
  (insertImpl_mem_ok h k0).2 (.inl hk)

theorem insertImpl_keys_mono {m m' : Mapping} {k k0 : Key} {v : Value} {fc fo : Bool}
    (h : m.insertImpl k v fc fo = .ok m') (hk : k0 ∈ m.es.map Prod.fst) :
    k0 ∈ m'.es.map Prod.fst := by
  rw [insertImpl_keys h]
  split
  · exact hk
  · exact List.mem_append_left _ hk

theorem mergeEntries_ck_mono (ock ook : List Key) (es : List (Key × Value)) :
    ∀ {m m' : Mapping} {k0 : Key}, m.mergeEntries ock ook es = .ok m' → k0 ∈ m.ck → k0 ∈ m'.ck := by
  intro m m' k0 h hk
  rw [mergeEntries_eq_foldlM] at h
  exact foldlM_ok_inv (fun m => k0 ∈ m.ck) (fun _ _ _ _ hk h1 => insertImpl_ck_mono h1 hk) h hk

theorem mergeEntries_keys_mono (ock ook : List Key) (es : List (Key × Value)) :
    ∀ {m m' : Mapping} {k0 : Key}, m.mergeEntries ock ook es = .ok m' →
      k0 ∈ m.es.map Prod.fst → k0 ∈ m'.es.map Prod.fst := by
  intro m m' k0 h hk
  rw [mergeEntries_eq_foldlM] at h
  exact foldlM_ok_inv (fun m => k0 ∈ m.es.map Prod.fst)
    (fun _ _ _ _ hk h1 => insertImpl_keys_mono h1 hk) h hk

/-! ### Unfolding `mergeEntries` / `merge` -/

theorem mergeEntries_nil (m : Mapping) (ock ook : List Key) : m.mergeEntries ock ook [] = .ok m := rfl

theorem mergeEntries_cons (m : Mapping) (ock ook : List Key) (k : Key) (v : Value)
    (rest : List (Key × Value)) :
    m.mergeEntries ock ook ((k, v) :: rest) =
      match m.insertImpl k v (decide (k ∈ ock)) (decide (k ∈ ook)) with
      | .error e => .error e
      | .ok m' => m'.mergeEntries ock ook rest := rfl

theorem mergeEntries_single (m : Mapping) (ock ook : List Key) (k : Key) (v : Value) :
    m.mergeEntries ock ook [(k, v)] = m.insertImpl k v (decide (k ∈ ock)) (decide (k ∈ ook)) := by
  rw [mergeEntries_cons]
  cases m.insertImpl k v (decide (k ∈ ock)) (decide (k ∈ ook)) <;> rfl

theorem mergeEntries_append (ock ook : List Key) (es1 es2 : List (Key × Value)) :
    ∀ m : Mapping, m.mergeEntries ock ook (es1 ++ es2) =
      match m.mergeEntries ock ook es1 with
      | .error e => .error e
      | .ok m1 => m1.mergeEntries ock ook es2 := by
  intro m
  simp only [mergeEntries_eq_foldlM, List.foldlM_append]
  cases es1.foldlM (m := Except Err) _ m <;> rfl

theorem merge_eq (m other : Mapping) : m.merge other = m.mergeEntries other.ck other.ok other.es := rfl

end Reclass
