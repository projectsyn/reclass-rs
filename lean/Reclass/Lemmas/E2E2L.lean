/-
  What C12b and C15b need about `renderNode`.  The class walk, `renderNodeSrc` and `renderNode`
  depend on the inventory only through `readClass`, the config and the lookup of the one node.
  `renderImplQ` / `walkClassesQ` is the walk instrumented with the class names it looks up in
  `r.classes` (found or not, also on failing runs); two inventories that agree on those names
  give the same run.
-/
import Reclass.Lemmas.E2EL
namespace Reclass
namespace E2E2

/-! ## 1. `renderNode`, with the metadata named -/

/-- The `NodeInfoMeta` that `Reclass::render_node` builds for node `name` stored at `info`. -/
def nodeMeta (cfg : NodeCfg) (name : Str) (info : EntityInfo) : MetaM :=
  { node := name, name := name,
    uri := Extracted.uriPrefix.toList ++ cfg.nodesPath ++ ['/'] ++ joinWith ['/'] info.path,
    environment := Extracted.environment.toList,
    parts :=
      if cfg.composeNodeName then
        match info.path.reverse with
        | [] => []
        | last :: revInit => revInit.reverse ++ [stemNoExt last]
      else if name.isEmpty then [] else [name] }

theorem renderNode_eq (fuel : Nat) (r : Inv) (name : Str) :
    renderNode fuel r name =
      match findEntity name r.nodes with
      | none => .error (.unknownNode name)
      | some (_, .bad w) => .error (.io w)
      | some (info, .ok src) => renderNodeSrc fuel r (nodeMeta r.cfg name info) src := rfl

/-! ## 2. Congruence in the inventory -/

theorem readClass_congr {r r' : Inv} (hc : r.cfg = r'.cfg) {loc : Option (List Str)} {c : Str}
    (h : findEntity (absClassName loc c) r.classes = findEntity (absClassName loc c) r'.classes) :
    readClass r loc c = readClass r' loc c := by
  unfold readClass
  simp only [h, hc]

theorem walk_congr {r r' : Inv} (h : ∀ loc c, readClass r loc c = readClass r' loc c) : ∀ n : Nat,
    (∀ self seen root, renderImpl n r self seen root = renderImpl n r' self seen root) ∧
    (∀ loc l seen root, walkClasses n r loc l seen root = walkClasses n r' loc l seen root) := by
  intro n
  induction n with
  | zero => exact ⟨fun _ _ _ => rfl, fun _ _ _ _ => rfl⟩
  | succ n ih =>
    obtain ⟨ihR, ihW⟩ := ih
    refine ⟨?_, ?_⟩
    · intro self seen root
      rw [renderImpl_succ, renderImpl_succ, ihW]
    · intro loc l seen root
      cases l with
      | nil => rw [walkClasses_nil, walkClasses_nil]
      | cons cls rest =>
        rw [walkClasses_cons, walkClasses_cons]
        simp only [h, ihR, ihW]

theorem renderNodeSrc_congr {r r' : Inv} (hc : r.cfg = r'.cfg)
    (h : ∀ loc c, readClass r loc c = readClass r' loc c)
    (fuel : Nat) (nmeta : MetaM) (src : ClassSrc) :
    renderNodeSrc fuel r nmeta src = renderNodeSrc fuel r' nmeta src := by
  simp only [renderNodeSrc_eqB, hc, (walk_congr h fuel).1]

theorem renderNodeSrc_src_congr {src src' : ClassSrc} (h : NodeM.ofSrc none src = NodeM.ofSrc none src')
    (fuel : Nat) (r : Inv) (nmeta : MetaM) :
    renderNodeSrc fuel r nmeta src = renderNodeSrc fuel r nmeta src' := by
  rw [renderNodeSrc_eqB, renderNodeSrc_eqB, h]

theorem nodePrefix_congr {r r' : Inv} (hc : r.cfg = r'.cfg) (nmeta : MetaM) (src : ClassSrc) :
    nodePrefix r nmeta src = nodePrefix r' nmeta src := by
  unfold nodePrefix
  rw [hc]

/-! ## 3. The walk instrumented with the names it looks up -/

def pre {α : Type} (q : List Str) (x : List Str × α) : List Str × α := (q ++ x.1, x.2)

@[simp] theorem pre_fst {α : Type} (q : List Str) (x : List Str × α) : (pre q x).1 = q ++ x.1 := rfl
@[simp] theorem pre_snd {α : Type} (q : List Str) (x : List Str × α) : (pre q x).2 = x.2 := rfl

mutual
/-- `renderImpl`, additionally returning the absolute class names looked up in `r.classes`
(in lookup order; found or not; also when the run fails). -/
def renderImplQ : Nat → Inv → NodeM → List Str → NodeM → List Str × R (List Str × NodeM)
  | 0, _, _, _, _ => ([], .error .fuel)
  | n+1, r, self, seen, root =>
    match walkClassesQ n r self.loc self.classes.items seen root with
    | (q, .error e) => (q, .error e)
    | (q, .ok (seen', root')) =>
      match mergeInto self root' with
      | .error e => (q, .error e)
      | .ok root'' => (q, .ok (seen', root''))
def walkClassesQ : Nat → Inv → Option (List Str) → List Str → List Str → NodeM →
    List Str × R (List Str × NodeM)
  | 0, _, _, _, _, _ => ([], .error .fuel)
  | _+1, _, _, [], seen, root => ([], .ok (seen, root))
  | n+1, r, loc, cls :: rest, seen, root =>
    match resolveClassName defaultFuel root.params cls with
    | .error e => ([], .error e)
    | .ok c =>
      if c ∈ seen then walkClassesQ n r loc rest seen root
      else
        -- `readClass r loc c` looks up exactly `absClassName loc c`
        pre [absClassName loc c]
          (match readClass r loc c with
           | .error e => ([], .error e)
           | .ok none => walkClassesQ n r loc rest seen root
           | .ok (some cn) =>
             match renderImplQ n r cn (seen ++ [c]) root with
             | (q1, .error e) => (q1, .error e)
             | (q1, .ok (seen', root')) => pre q1 (walkClassesQ n r loc rest seen' root'))
end

theorem renderImplQ_zero (r : Inv) (self : NodeM) (seen : List Str) (root : NodeM) :
    renderImplQ 0 r self seen root = ([], .error .fuel) := by simp only [renderImplQ]

theorem renderImplQ_succ (n : Nat) (r : Inv) (self : NodeM) (seen : List Str) (root : NodeM) :
    renderImplQ (n+1) r self seen root =
      match walkClassesQ n r self.loc self.classes.items seen root with
      | (q, .error e) => (q, .error e)
      | (q, .ok (seen', root')) =>
        match mergeInto self root' with
        | .error e => (q, .error e)
        | .ok root'' => (q, .ok (seen', root'')) := by simp only [renderImplQ]

theorem walkClassesQ_zero (r : Inv) (loc : Option (List Str)) (l seen : List Str) (root : NodeM) :
    walkClassesQ 0 r loc l seen root = ([], .error .fuel) := by simp only [walkClassesQ]

theorem walkClassesQ_nil (n : Nat) (r : Inv) (loc : Option (List Str)) (seen : List Str) (root : NodeM) :
    walkClassesQ (n+1) r loc [] seen root = ([], .ok (seen, root)) := by simp only [walkClassesQ]

theorem walkClassesQ_cons (n : Nat) (r : Inv) (loc : Option (List Str)) (cls : Str) (rest seen : List Str)
    (root : NodeM) :
    walkClassesQ (n+1) r loc (cls :: rest) seen root =
      match resolveClassName defaultFuel root.params cls with
      | .error e => ([], .error e)
      | .ok c =>
        if c ∈ seen then walkClassesQ n r loc rest seen root
        else
          pre [absClassName loc c]
            (match readClass r loc c with
             | .error e => ([], .error e)
             | .ok none => walkClassesQ n r loc rest seen root
             | .ok (some cn) =>
               match renderImplQ n r cn (seen ++ [c]) root with
               | (q1, .error e) => (q1, .error e)
               | (q1, .ok (seen', root')) => pre q1 (walkClassesQ n r loc rest seen' root')) := by
  simp only [walkClassesQ]

theorem walkQ_snd : ∀ n : Nat,
    (∀ r self seen root, (renderImplQ n r self seen root).2 = renderImpl n r self seen root) ∧
    (∀ r loc l seen root, (walkClassesQ n r loc l seen root).2 = walkClasses n r loc l seen root)
  | 0 => ⟨fun _ _ _ _ => rfl, fun _ _ _ _ _ => rfl⟩
  | n+1 => by
    obtain ⟨ihR, ihW⟩ := walkQ_snd n
    refine ⟨fun r self seen root => ?_, fun r loc l seen root => ?_⟩
    · rw [renderImplQ_succ, renderImpl_succ, ← ihW]
      rcases walkClassesQ n r self.loc self.classes.items seen root with ⟨q, _ | ⟨s, r1⟩⟩
      · rfl
      dsimp only
      rcases mergeInto self r1 with _ | _ <;> rfl
    · cases l with
      | nil => rfl
      | cons cls rest =>
        rw [walkClassesQ_cons, walkClasses_cons]
        rcases resolveClassName defaultFuel root.params cls with _ | c
        · rfl
        dsimp only
        split
        · exact ihW ..
        rw [pre_snd]
        rcases readClass r loc c with _ | _ | cn
        · rfl
        · exact ihW ..
        dsimp only
        rw [← ihR]
        rcases renderImplQ n r cn (seen ++ [c]) root with ⟨q1, _ | ⟨s1, root1⟩⟩
        · rfl
        · exact ihW ..
theorem renderImplQ_snd (n : Nat) (r : Inv) (self : NodeM) (seen : List Str) (root : NodeM) :
    (renderImplQ n r self seen root).2 = renderImpl n r self seen root :=
  (walkQ_snd n).1 r self seen root

theorem walkClassesQ_snd (n : Nat) (r : Inv) (loc : Option (List Str)) (l seen : List Str) (root : NodeM) :
    (walkClassesQ n r loc l seen root).2 = walkClasses n r loc l seen root :=
  (walkQ_snd n).2 r loc l seen root

theorem renderImplQ_succ_fst (n : Nat) (r : Inv) (self : NodeM) (seen : List Str) (root : NodeM) :
    (renderImplQ (n+1) r self seen root).1 = (walkClassesQ n r self.loc self.classes.items seen root).1 := by
  rw [renderImplQ_succ]
  rcases walkClassesQ n r self.loc self.classes.items seen root with ⟨q, _ | ⟨s, r1⟩⟩
  · rfl
  dsimp only
  rcases mergeInto self r1 with _ | _ <;> rfl

theorem walkQ_congr {r r' : Inv} (hc : r.cfg = r'.cfg) : ∀ n : Nat,
    (∀ self seen root,
      (∀ a ∈ (renderImplQ n r self seen root).1, findEntity a r.classes = findEntity a r'.classes) →
      renderImplQ n r' self seen root = renderImplQ n r self seen root) ∧
    (∀ loc l seen root,
      (∀ a ∈ (walkClassesQ n r loc l seen root).1, findEntity a r.classes = findEntity a r'.classes) →
      walkClassesQ n r' loc l seen root = walkClassesQ n r loc l seen root)
  | 0 => ⟨fun _ _ _ _ => rfl, fun _ _ _ _ _ => rfl⟩
  | n+1 => by
    obtain ⟨ihR, ihW⟩ := walkQ_congr hc n
    refine ⟨fun self seen root hq => ?_, fun loc l seen root hq => ?_⟩
    · rw [renderImplQ_succ_fst] at hq
      rw [renderImplQ_succ, renderImplQ_succ, ihW _ _ _ _ hq]
    · cases l with
      | nil => rfl
      | cons cls rest =>
        rw [walkClassesQ_cons] at hq
        rw [walkClassesQ_cons, walkClassesQ_cons]
        rcases h1 : resolveClassName defaultFuel root.params cls with _ | c
        · rfl
        rw [h1] at hq
        dsimp only at hq ⊢
        split
        · rw [if_pos ‹_›] at hq; exact ihW _ _ _ _ hq
        rw [if_neg ‹_›, pre_fst, List.cons_append, List.nil_append] at hq
        obtain ⟨ha, hq⟩ := List.forall_mem_cons.1 hq
        rw [← readClass_congr hc ha]
        rcases h2 : readClass r loc c with _ | _ | cn
        · rfl
        · rw [h2] at hq; rw [ihW _ _ _ _ hq]
        rw [h2] at hq
        dsimp only at hq ⊢
        rcases hx : renderImplQ n r cn (seen ++ [c]) root with ⟨q1, _ | ⟨s1, root1⟩⟩
        · rw [hx] at hq
          rw [ihR cn _ _ (by rw [hx]; exact hq), hx]
        · rw [hx] at hq
          dsimp only [pre_fst] at hq
          obtain ⟨hq1, hq2⟩ := List.forall_mem_append.1 hq
          rw [ihR cn _ _ (by rw [hx]; exact hq1), hx]
          dsimp only
          rw [ihW _ _ _ _ hq2]
theorem renderImplQ_congr {r r' : Inv} (hc : r.cfg = r'.cfg) {n : Nat} {self : NodeM} {seen : List Str}
    {root : NodeM}
    (h : ∀ a ∈ (renderImplQ n r self seen root).1, findEntity a r.classes = findEntity a r'.classes) :
    renderImplQ n r' self seen root = renderImplQ n r self seen root :=
  (walkQ_congr hc n).1 self seen root h

/-! ## 4. `findEntity` through `map` and `++` -/

theorem findEntity_map (g : EntityInfo → FileRes → FileRes) (name : Str) :
    ∀ l : List (Str × EntityInfo × FileRes),
      findEntity name (l.map fun x => (x.1, x.2.1, g x.2.1 x.2.2)) =
        (findEntity name l).map fun e => (e.1, g e.1 e.2)
  | [] => rfl
  | (n, e) :: rest => by
    rw [List.map_cons, findEntity, findEntity]
    split
    · rfl
    · exact findEntity_map g name rest

theorem findEntity_append (name : Str) (l2 : List (Str × EntityInfo × FileRes)) :
    ∀ l1 : List (Str × EntityInfo × FileRes),
      findEntity name (l1 ++ l2) =
        match findEntity name l1 with
        | some e => some e
        | none => findEntity name l2
  | [] => rfl
  | (n, e) :: rest => by
    rw [List.cons_append, findEntity, findEntity]
    split
    · rfl
    · exact findEntity_append name l2 rest

theorem findEntity_cons_ne {name : Str} {x : Str × EntityInfo × FileRes} (h : x.1 ≠ name)
    (l : List (Str × EntityInfo × FileRes)) : findEntity name (x :: l) = findEntity name l := by
  obtain ⟨n, e⟩ := x
  rw [findEntity, if_neg h]

theorem findEntity_filter_self (name : Str) :
    ∀ l : List (Str × EntityInfo × FileRes),
      findEntity name (l.filter fun x => decide (x.1 = name)) = findEntity name l
  | [] => rfl
  | (n, e) :: rest => by
    by_cases hn : n = name
    · simp only [List.filter_cons, hn, decide_true, if_true, findEntity]
    · simp only [List.filter_cons, hn, decide_false, findEntity, if_false, Bool.false_eq_true]
      exact findEntity_filter_self name rest

end E2E2
end Reclass
