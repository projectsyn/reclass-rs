/-
  Reclass.Lemmas.Fuel — the fuel of the evaluator (`Model/Eval`, the 13-way mutual block) is not
  part of its meaning: more fuel never changes a non-fuel answer, and for every input some amount
  suffices (`namespace Termination`).  On the way: the resolution state only grows, and which
  errors the functions that take no fuel can report.
-/
import Reclass.Lemmas.EvalEq
import Reclass.Lemmas.ParserL
namespace Reclass

/-! ## Fuel monotonicity -/

/-- Each field is `FLe (f n …) (f (n+1) …)` unfolded; `monoAt_succ` proves it in that form, by the bind
rules. -/
structure MonoAt (n : Nat) : Prop where
  interp : ∀ root v st, interp n root v st ≠ .error .fuel → interp (n+1) root v st = interp n root v st
  interpL : ∀ root l idx st, interpL n root l idx st ≠ .error .fuel →
    interpL (n+1) root l idx st = interpL n root l idx st
  interpEs : ∀ root es ck ok st acc, interpEs n root es ck ok st acc ≠ .error .fuel →
    interpEs (n+1) root es ck ok st acc = interpEs n root es ck ok st acc
  interpVl : ∀ root l r st, interpVl n root l r st ≠ .error .fuel →
    interpVl (n+1) root l r st = interpVl n root l r st
  tokRender : ∀ root t st, tokRender n root t st ≠ .error .fuel →
    tokRender (n+1) root t st = tokRender n root t st
  tokResolve : ∀ root t st, tokResolve n root t st ≠ .error .fuel →
    tokResolve (n+1) root t st = tokResolve n root t st
  descend : ∀ root v ks st p, descend n root v ks st p ≠ .error .fuel →
    descend (n+1) root v ks st p = descend n root v ks st p
  finalLoop : ∀ root v st, finalLoop n root v st ≠ .error .fuel →
    finalLoop (n+1) root v st = finalLoop n root v st
  interpStrOrVl : ∀ root v st, interpStrOrVl n root v st ≠ .error .fuel →
    interpStrOrVl (n+1) root v st = interpStrOrVl n root v st
  layersStr : ∀ root l st, layersStr n root l st ≠ .error .fuel →
    layersStr (n+1) root l st = layersStr n root l st
  slice : ∀ root ts st, slice n root ts st ≠ .error .fuel →
    slice (n+1) root ts st = slice n root ts st
  strLoop : ∀ root v st, strLoop n root v st ≠ .error .fuel →
    strLoop (n+1) root v st = strLoop n root v st
  sliceFinish : ∀ root v st, sliceFinish n root v st ≠ .error .fuel →
    sliceFinish (n+1) root v st = sliceFinish n root v st

/-- One step: case on the result of the sub-call `c` at fuel `n`; if it is the fuel error the
hypothesis `h` is contradictory, otherwise rewrite the `n+1` call with the induction hypothesis. -/
local macro "fstep " h:ident " using " ih:term " on " c:term " with " x:ident : tactic =>
  `(tactic| (
    rcases hc : $c with e | $x:ident
    · by_cases hf : e = Err.fuel
      · subst hf; simp [hc] at $h:ident
      · have hne : $c ≠ .error .fuel := by rw [hc]; simp [hf]
        simp only [$ih:term hne, hc]
    have hne : $c ≠ .error .fuel := by rw [hc]; simp
    simp only [$ih:term hne, hc] at $h:ident ⊢))

/-- As `fstep`, for sub-calls returning a pair. -/
local macro "fstep2 " h:ident " using " ih:term " on " c:term " with " x:ident y:ident : tactic =>
  `(tactic| (
    rcases hc : $c with e | ⟨$x:ident, $y:ident⟩
    · by_cases hf : e = Err.fuel
      · subst hf; simp [hc] at $h:ident
      · have hne : $c ≠ .error .fuel := by rw [hc]; simp [hf]
        simp only [$ih:term hne, hc]
    have hne : $c ≠ .error .fuel := by rw [hc]; simp
    simp only [$ih:term hne, hc] at $h:ident ⊢))

theorem monoAt_succ {n : Nat} (ih : MonoAt n) : MonoAt (n+1) where
  interp root v st := by
    show FLe _ _
    cases v with
    | str s =>
      rw [interp_strB, interp_strB]
      refine .bind1 (.rfl' _) fun o => ?_
      cases o with
      | none => exact .rfl' _
      | some t => exact ih.tokRender _ _ _
    | map es ck ok =>
      rw [interp_mapB, interp_mapB]
      exact .bind1 (ih.interpEs _ _ _ _ _ _) fun _ => .rfl' _
    | seq l =>
      rw [interp_seqB, interp_seqB]
      exact .bind1 (ih.interpL _ _ _ _) fun _ => .rfl' _
    | vl l =>
      rw [interp_vlB, interp_vlB]
      exact .bind1 (ih.interpVl _ _ _ _) fun _ => ih.interp _ _ _
    | _ => exact .rfl' _
  interpL root l idx st := by
    show FLe _ _
    cases l with
    | nil => exact .rfl' _
    | cons v vs =>
      rw [interpL_consB, interpL_consB]
      exact .bind2 (ih.interp _ _ _) fun _ _ => .bind1 (ih.interpL _ _ _ _) fun _ => .rfl' _
  interpEs root es ck ok st acc := by
    show FLe _ _
    cases es with
    | nil => exact .rfl' _
    | cons kv rest =>
      obtain ⟨k, v⟩ := kv
      rw [interpEs_consB, interpEs_consB]
      exact .bind2 (ih.interp _ _ _) fun _ _ => .bind1 (.rfl' _) fun _ => .bind1 (.rfl' _) fun _ =>
        ih.interpEs _ _ _ _ _ _
  interpVl root l r st := by
    show FLe _ _
    cases l with
    | nil => exact .rfl' _
    | cons v vs =>
      rw [interpVl_consB, interpVl_consB]
      exact .bind2 (ih.interp _ _ _) fun _ _ => .bind1 (.rfl' _) fun _ => ih.interpVl _ _ _ _
  tokRender root t st := by
    show FLe _ _
    rw [tokRender_succB, tokRender_succB]
    refine .bind2 (ih.tokResolve _ _ _) fun v st' => ?_
    cases t with
    | ref parts => exact ih.interp _ _ _
    | _ => exact .rfl' _
  tokResolve root t st := by
    show FLe _ _
    cases t with
    | lit s => exact .rfl' _
    | combined ts =>
      rw [tokResolve_combinedB, tokResolve_combinedB]
      exact .bind1 (ih.slice _ _ _) fun _ => .rfl' _
    | ref parts =>
      rw [tokResolve_refB, tokResolve_refB]
      refine .ite (.rfl' _) (.bind1 (ih.slice _ _ _) fun path => .ite (.rfl' _) ?_)
      cases splitColon path with
      | nil => exact .rfl' _
      | cons k0 segs =>
        dsimp only
        cases root.get (.str k0) with
        | none => exact .rfl' _
        | some v0 => exact .bind2 (ih.descend _ _ _ _ _) fun _ _ => ih.finalLoop _ _ _
  descend root v ks st p := by
    show FLe _ _
    cases ks with
    | nil => exact .rfl' _
    | cons key rest =>
      rw [descend_consB, descend_consB]
      refine .bind2 (ih.interpStrOrVl _ _ _) fun newv st' => ?_
      cases newv with
      | map es ck ok =>
        dsimp only
        cases lookup (.str key) es with
        | none => exact .rfl' _
        | some v' => exact ih.descend _ _ _ _ _
      | _ => exact .rfl' _
  finalLoop root v st := by
    show FLe _ _
    rw [finalLoop_succB, finalLoop_succB]
    exact .ite (.bind2 (ih.interp _ _ _) fun _ _ => ih.finalLoop _ _ _) (.rfl' _)
  interpStrOrVl root v st := by
    show FLe _ _
    cases v with
    | str s => exact ih.interp _ _ _
    | vl l =>
      rw [interpStrOrVl_vlB, interpStrOrVl_vlB]
      exact .bind1 (ih.layersStr _ _ _) fun _ => .rfl' _
    | _ => exact .rfl' _
  layersStr root l st := by
    show FLe _ _
    cases l with
    | nil => exact .rfl' _
    | cons v vs =>
      rw [layersStr_consB, layersStr_consB]
      exact .bind1 (.ite (.bind2 (ih.interp _ _ _) fun _ _ => .rfl' _) (.rfl' _)) fun _ =>
        .bind1 (ih.layersStr _ _ _) fun _ => .rfl' _
  slice root ts st := by
    show FLe _ _
    cases ts with
    | nil => exact .rfl' _
    | cons t ts =>
      rw [slice_consB, slice_consB]
      exact .bind2 (ih.tokResolve _ _ _) fun _ _ => .bind2 (ih.strLoop _ _ _) fun _ _ =>
        .bind1 (ih.sliceFinish _ _ _) fun _ => .bind1 (ih.slice _ _ _) fun _ => .rfl' _
  strLoop root v st := by
    show FLe _ _
    rw [strLoop_succB, strLoop_succB]
    exact .ite (.bind2 (ih.interp _ _ _) fun _ _ => ih.strLoop _ _ _) (.rfl' _)
  sliceFinish root v st := by
    show FLe _ _
    rw [sliceFinish_succB, sliceFinish_succB]
    exact .ite (.bind2 (ih.interp _ _ _) fun _ _ => .rfl' _) (.rfl' _)

theorem monoAt : ∀ n, MonoAt n := by
  intro n
  induction n with
  | zero =>
    exact ⟨fun _ _ _ h => (h rfl).elim, fun _ _ _ _ h => (h rfl).elim, fun _ _ _ _ _ _ h => (h rfl).elim,
      fun _ _ _ _ h => (h rfl).elim, fun _ _ _ h => (h rfl).elim, fun _ _ _ h => (h rfl).elim,
      fun _ _ _ _ _ h => (h rfl).elim, fun _ _ _ h => (h rfl).elim, fun _ _ _ h => (h rfl).elim,
      fun _ _ _ h => (h rfl).elim, fun _ _ _ h => (h rfl).elim, fun _ _ _ h => (h rfl).elim,
      fun _ _ _ h => (h rfl).elim⟩
  | succ n ih => exact monoAt_succ ih

/-! ### `fuel_mono` / `fuel_mono_le` for each of the 13 functions -/

theorem interp_fuel_mono {n : Nat} (root : Mapping) (v : Value) (st : RState) {r : R (Value × RState)}
    (h : interp n root v st = r) (hr : r ≠ .error .fuel) : interp (n+1) root v st = r := by
  subst h; exact (monoAt n).interp _ _ _ hr

theorem interp_fuel_mono_le {n m : Nat} (hle : n ≤ m) (root : Mapping) (v : Value) (st : RState) {r : R (Value × RState)}
    (h : interp n root v st = r) (hr : r ≠ .error .fuel) : interp m root v st = r := by
  subst h; exact mono_le_of_succ (fun k => (monoAt k).interp root v st) hr hle

theorem interpL_fuel_mono {n : Nat} (root : Mapping) (l : List Value) (idx : Nat) (st : RState) {r : R (List Value)}
    (h : interpL n root l idx st = r) (hr : r ≠ .error .fuel) : interpL (n+1) root l idx st = r := by
  subst h; exact (monoAt n).interpL _ _ _ _ hr

theorem interpL_fuel_mono_le {n m : Nat} (hle : n ≤ m) (root : Mapping) (l : List Value) (idx : Nat) (st : RState) {r : R (List Value)}
    (h : interpL n root l idx st = r) (hr : r ≠ .error .fuel) : interpL m root l idx st = r := by
  subst h; exact mono_le_of_succ (fun k => (monoAt k).interpL root l idx st) hr hle

theorem interpEs_fuel_mono {n : Nat} (root : Mapping) (es : List (Key × Value)) (ck ok : List Key) (st : RState) (acc : Mapping) {r : R Mapping}
    (h : interpEs n root es ck ok st acc = r) (hr : r ≠ .error .fuel) : interpEs (n+1) root es ck ok st acc = r := by
  subst h; exact (monoAt n).interpEs _ _ _ _ _ _ hr

theorem interpEs_fuel_mono_le {n m : Nat} (hle : n ≤ m) (root : Mapping) (es : List (Key × Value)) (ck ok : List Key) (st : RState) (acc : Mapping) {r : R Mapping}
    (h : interpEs n root es ck ok st acc = r) (hr : r ≠ .error .fuel) : interpEs m root es ck ok st acc = r := by
  subst h; exact mono_le_of_succ (fun k => (monoAt k).interpEs root es ck ok st acc) hr hle

theorem interpVl_fuel_mono {n : Nat} (root : Mapping) (l : List Value) (r : Value) (st : RState) {res : R Value}
    (h : interpVl n root l r st = res) (hr : res ≠ .error .fuel) : interpVl (n+1) root l r st = res := by
  subst h; exact (monoAt n).interpVl _ _ _ _ hr

theorem interpVl_fuel_mono_le {n m : Nat} (hle : n ≤ m) (root : Mapping) (l : List Value) (r : Value) (st : RState) {res : R Value}
    (h : interpVl n root l r st = res) (hr : res ≠ .error .fuel) : interpVl m root l r st = res := by
  subst h; exact mono_le_of_succ (fun k => (monoAt k).interpVl root l r st) hr hle

theorem tokRender_fuel_mono {n : Nat} (root : Mapping) (t : Token) (st : RState) {r : R (Value × RState)}
    (h : tokRender n root t st = r) (hr : r ≠ .error .fuel) : tokRender (n+1) root t st = r := by
  subst h; exact (monoAt n).tokRender _ _ _ hr

theorem tokRender_fuel_mono_le {n m : Nat} (hle : n ≤ m) (root : Mapping) (t : Token) (st : RState) {r : R (Value × RState)}
    (h : tokRender n root t st = r) (hr : r ≠ .error .fuel) : tokRender m root t st = r := by
  subst h; exact mono_le_of_succ (fun k => (monoAt k).tokRender root t st) hr hle

theorem tokResolve_fuel_mono {n : Nat} (root : Mapping) (t : Token) (st : RState) {r : R (Value × RState)}
    (h : tokResolve n root t st = r) (hr : r ≠ .error .fuel) : tokResolve (n+1) root t st = r := by
  subst h; exact (monoAt n).tokResolve _ _ _ hr

theorem tokResolve_fuel_mono_le {n m : Nat} (hle : n ≤ m) (root : Mapping) (t : Token) (st : RState) {r : R (Value × RState)}
    (h : tokResolve n root t st = r) (hr : r ≠ .error .fuel) : tokResolve m root t st = r := by
  subst h; exact mono_le_of_succ (fun k => (monoAt k).tokResolve root t st) hr hle

theorem descend_fuel_mono {n : Nat} (root : Mapping) (v : Value) (ks : List Str) (st : RState) (p : Str) {r : R (Value × RState)}
    (h : descend n root v ks st p = r) (hr : r ≠ .error .fuel) : descend (n+1) root v ks st p = r := by
  subst h; exact (monoAt n).descend _ _ _ _ _ hr

theorem descend_fuel_mono_le {n m : Nat} (hle : n ≤ m) (root : Mapping) (v : Value) (ks : List Str) (st : RState) (p : Str) {r : R (Value × RState)}
    (h : descend n root v ks st p = r) (hr : r ≠ .error .fuel) : descend m root v ks st p = r := by
  subst h; exact mono_le_of_succ (fun k => (monoAt k).descend root v ks st p) hr hle

theorem finalLoop_fuel_mono {n : Nat} (root : Mapping) (v : Value) (st : RState) {r : R (Value × RState)}
    (h : finalLoop n root v st = r) (hr : r ≠ .error .fuel) : finalLoop (n+1) root v st = r := by
  subst h; exact (monoAt n).finalLoop _ _ _ hr

theorem finalLoop_fuel_mono_le {n m : Nat} (hle : n ≤ m) (root : Mapping) (v : Value) (st : RState) {r : R (Value × RState)}
    (h : finalLoop n root v st = r) (hr : r ≠ .error .fuel) : finalLoop m root v st = r := by
  subst h; exact mono_le_of_succ (fun k => (monoAt k).finalLoop root v st) hr hle

theorem interpStrOrVl_fuel_mono {n : Nat} (root : Mapping) (v : Value) (st : RState) {r : R (Value × RState)}
    (h : interpStrOrVl n root v st = r) (hr : r ≠ .error .fuel) : interpStrOrVl (n+1) root v st = r := by
  subst h; exact (monoAt n).interpStrOrVl _ _ _ hr

theorem interpStrOrVl_fuel_mono_le {n m : Nat} (hle : n ≤ m) (root : Mapping) (v : Value) (st : RState) {r : R (Value × RState)}
    (h : interpStrOrVl n root v st = r) (hr : r ≠ .error .fuel) : interpStrOrVl m root v st = r := by
  subst h; exact mono_le_of_succ (fun k => (monoAt k).interpStrOrVl root v st) hr hle

theorem layersStr_fuel_mono {n : Nat} (root : Mapping) (l : List Value) (st : RState) {r : R (List Value)}
    (h : layersStr n root l st = r) (hr : r ≠ .error .fuel) : layersStr (n+1) root l st = r := by
  subst h; exact (monoAt n).layersStr _ _ _ hr

theorem layersStr_fuel_mono_le {n m : Nat} (hle : n ≤ m) (root : Mapping) (l : List Value) (st : RState) {r : R (List Value)}
    (h : layersStr n root l st = r) (hr : r ≠ .error .fuel) : layersStr m root l st = r := by
  subst h; exact mono_le_of_succ (fun k => (monoAt k).layersStr root l st) hr hle

theorem slice_fuel_mono {n : Nat} (root : Mapping) (ts : List Token) (st : RState) {r : R Str}
    (h : slice n root ts st = r) (hr : r ≠ .error .fuel) : slice (n+1) root ts st = r := by
  subst h; exact (monoAt n).slice _ _ _ hr

theorem slice_fuel_mono_le {n m : Nat} (hle : n ≤ m) (root : Mapping) (ts : List Token) (st : RState) {r : R Str}
    (h : slice n root ts st = r) (hr : r ≠ .error .fuel) : slice m root ts st = r := by
  subst h; exact mono_le_of_succ (fun k => (monoAt k).slice root ts st) hr hle

theorem strLoop_fuel_mono {n : Nat} (root : Mapping) (v : Value) (st : RState) {r : R (Value × RState)}
    (h : strLoop n root v st = r) (hr : r ≠ .error .fuel) : strLoop (n+1) root v st = r := by
  subst h; exact (monoAt n).strLoop _ _ _ hr

theorem strLoop_fuel_mono_le {n m : Nat} (hle : n ≤ m) (root : Mapping) (v : Value) (st : RState) {r : R (Value × RState)}
    (h : strLoop n root v st = r) (hr : r ≠ .error .fuel) : strLoop m root v st = r := by
  subst h; exact mono_le_of_succ (fun k => (monoAt k).strLoop root v st) hr hle

theorem sliceFinish_fuel_mono {n : Nat} (root : Mapping) (v : Value) (st : RState) {r : R Str}
    (h : sliceFinish n root v st = r) (hr : r ≠ .error .fuel) : sliceFinish (n+1) root v st = r := by
  subst h; exact (monoAt n).sliceFinish _ _ _ hr

theorem sliceFinish_fuel_mono_le {n m : Nat} (hle : n ≤ m) (root : Mapping) (v : Value) (st : RState) {r : R Str}
    (h : sliceFinish n root v st = r) (hr : r ≠ .error .fuel) : sliceFinish m root v st = r := by
  subst h; exact mono_le_of_succ (fun k => (monoAt k).sliceFinish root v st) hr hle

theorem renderedF_eqB (n : Nat) (v : Value) (root : Mapping) :
    renderedF n v root = bind2 (interp n root v {}) fun v' st => flat v' st := by
  unfold renderedF; rcases interp n root v {} with _ | ⟨_, _⟩ <;> rfl

theorem renderParamsF_eqB (n : Nat) (m : Mapping) :
    renderParamsF n m = bind1 (renderedF n m.toValue m) fun
      | .map es ck ok => .ok ⟨es, ck, ok⟩
      | v => .error (.notMapping v.kind) := by
  unfold renderParamsF
  rcases renderedF n m.toValue m with _ | v
  · rfl
  · cases v <;> rfl

theorem renderedF_fuel_mono_le {n m : Nat} (hle : n ≤ m) (v : Value) (root : Mapping) {r : R Value}
    (h : renderedF n v root = r) (hr : r ≠ .error .fuel) : renderedF m v root = r := by
  subst h
  have hi : interp n root v {} ≠ .error .fuel := fun hi => hr (by unfold renderedF; rw [hi])
  unfold renderedF; rw [interp_fuel_mono_le hle root v {} rfl hi]

theorem renderParamsF_fuel_mono_le {n m : Nat} (hle : n ≤ m) (mp : Mapping) {r : R Mapping}
    (h : renderParamsF n mp = r) (hr : r ≠ .error .fuel) : renderParamsF m mp = r := by
  subst h
  have hi : renderedF n mp.toValue mp ≠ .error .fuel := fun hi => hr (by unfold renderParamsF; rw [hi])
  unfold renderParamsF; rw [renderedF_fuel_mono_le hle _ _ rfl hi]

theorem interp_fuel_indep {n m : Nat} (root : Mapping) (v : Value) (st : RState)
    (hn : interp n root v st ≠ .error .fuel) (hm : interp m root v st ≠ .error .fuel) :
    interp n root v st = interp m root v st := by
  rcases Nat.le_total n m with h | h
  · exact (interp_fuel_mono_le h root v st rfl hn).symm
  · exact interp_fuel_mono_le h root v st rfl hm


/-! ## The resolution state only grows -/

def RState.Le (a b : RState) : Prop := a.depth ≤ b.depth ∧ a.seen ⊆ b.seen ∧ b.cur = a.cur

theorem RState.Le.refl (a : RState) : a.Le a := ⟨Nat.le_refl _, fun _ h => h, rfl⟩

theorem RState.Le.trans {a b c : RState} (h1 : a.Le b) (h2 : b.Le c) : a.Le c :=
  ⟨Nat.le_trans h1.1 h2.1, fun _ h => h2.2.1 (h1.2.1 h), h2.2.2.trans h1.2.2⟩

theorem RState.Le.enter (st : RState) (path : Str) :
    st.Le { st with depth := st.depth + 1, seen := path :: st.seen } :=
  ⟨Nat.le_succ _, fun _ h => List.mem_cons_of_mem _ h, rfl⟩

structure GrowAt (n : Nat) : Prop where
  interp : ∀ root v st x st', interp n root v st = .ok (x, st') → st.Le st'
  tokRender : ∀ root t st x st', tokRender n root t st = .ok (x, st') → st.Le st'
  tokResolve : ∀ root t st x st', tokResolve n root t st = .ok (x, st') → st.Le st'
  descend : ∀ root v ks st p x st', descend n root v ks st p = .ok (x, st') → st.Le st'
  finalLoop : ∀ root v st x st', finalLoop n root v st = .ok (x, st') → st.Le st'
  interpStrOrVl : ∀ root v st x st', interpStrOrVl n root v st = .ok (x, st') → st.Le st'
  strLoop : ∀ root v st x st', strLoop n root v st = .ok (x, st') → st.Le st'

theorem growAt_succ {n : Nat} (ih : GrowAt n) : GrowAt (n+1) where
  interp root v st x st' h := by
    cases v with
    | str s =>
      simp only [interp_strB, bind1_ok] at h
      obtain ⟨o, -, h⟩ := h
      cases o with
      | none => cases h; exact .refl _
      | some t => exact ih.tokRender _ _ _ _ _ h
    | map _ _ _ | seq _ =>
      simp only [interp_mapB, interp_seqB, bind1_ok] at h
      obtain ⟨_, -, h⟩ := h
      cases h; exact .refl _
    | vl l =>
      simp only [interp_vlB, bind1_ok] at h
      obtain ⟨r, -, h⟩ := h
      exact ih.interp _ _ _ _ _ h
    | _ => cases h; exact .refl _
  tokRender root t st x st' h := by
    simp only [tokRender_succB, bind2_ok] at h
    obtain ⟨v, st1, h1, h⟩ := h
    have hle := ih.tokResolve _ _ _ _ _ h1
    cases t with
    | ref parts => exact hle.trans (ih.interp _ _ _ _ _ h)
    | _ =>
      simp only [bind1_ok] at h
      obtain ⟨s', -, h⟩ := h
      cases h; exact hle
  tokResolve root t st x st' h := by
    cases t with
    | lit s => cases h; exact .refl _
    | combined ts =>
      simp only [tokResolve_combinedB, bind1_ok] at h
      obtain ⟨s, -, h⟩ := h
      cases h; exact .refl _
    | ref parts =>
      obtain ⟨-, path, _, _, _, _, _, -, -, -, -, hd, hf⟩ := tokResolve_ref_ok h
      exact (RState.Le.enter st path).trans
        ((ih.descend _ _ _ _ _ _ _ hd).trans (ih.finalLoop _ _ _ _ _ hf))
  descend root v ks st p x st' h := by
    cases ks with
    | nil => cases h; exact .refl _
    | cons key rest =>
      simp only [descend_consB, bind2_ok] at h
      obtain ⟨newv, st1, h1, h⟩ := h
      have hle := ih.interpStrOrVl _ _ _ _ _ h1
      cases newv with
      | map es ck ok =>
        dsimp only at h
        split at h
        · cases h
        · exact hle.trans (ih.descend _ _ _ _ _ _ _ h)
      | _ => cases h
  finalLoop root v st x st' h := by
    rw [finalLoop_succB] at h
    split at h
    · simp only [bind2_ok] at h
      obtain ⟨v1, st1, hi, h⟩ := h
      exact (ih.interp _ _ _ _ _ hi).trans (ih.finalLoop _ _ _ _ _ h)
    · cases h; exact .refl _
  interpStrOrVl root v st x st' h := by
    cases v with
    | str s => exact ih.interp _ _ _ _ _ h
    | vl l =>
      simp only [interpStrOrVl_vlB, bind1_ok] at h
      obtain ⟨i, -, r, -, h⟩ := h
      cases h; exact .refl _
    | _ => cases h; exact .refl _
  strLoop root v st x st' h := by
    rw [strLoop_succB] at h
    split at h
    · simp only [bind2_ok] at h
      obtain ⟨v1, st1, hi, h⟩ := h
      exact (ih.interp _ _ _ _ _ hi).trans (ih.strLoop _ _ _ _ _ h)
    · cases h; exact .refl _

theorem growAt : ∀ n, GrowAt n := by
  intro n
  induction n with
  | zero =>
    exact ⟨fun _ _ _ _ _ h => (nomatch h), fun _ _ _ _ _ h => (nomatch h), fun _ _ _ _ _ h => (nomatch h),
      fun _ _ _ _ _ _ _ h => (nomatch h), fun _ _ _ _ _ h => (nomatch h), fun _ _ _ _ _ h => (nomatch h),
      fun _ _ _ _ _ h => (nomatch h)⟩
  | succ n ih => exact growAt_succ ih

theorem depth_mono {n : Nat} {root : Mapping} {v : Value} {st : RState} {x : Value} {st' : RState}
    (h : interp n root v st = .ok (x, st')) :
    st.depth ≤ st'.depth ∧ st.seen ⊆ st'.seen ∧ st'.cur = st.cur :=
  (growAt n).interp _ _ _ _ _ h

theorem tokRender_depth_mono {n : Nat} {root : Mapping} {t : Token} {st : RState} {x : Value}
    {st' : RState} (h : tokRender n root t st = .ok (x, st')) :
    st.depth ≤ st'.depth ∧ st.seen ⊆ st'.seen ∧ st'.cur = st.cur :=
  (growAt n).tokRender _ _ _ _ _ h

theorem tokResolve_depth_mono {n : Nat} {root : Mapping} {t : Token} {st : RState} {x : Value}
    {st' : RState} (h : tokResolve n root t st = .ok (x, st')) :
    st.depth ≤ st'.depth ∧ st.seen ⊆ st'.seen ∧ st'.cur = st.cur :=
  (growAt n).tokResolve _ _ _ _ _ h

theorem descend_depth_mono {n : Nat} {root : Mapping} {v : Value} {ks : List Str} {st : RState}
    {p : Str} {x : Value} {st' : RState} (h : descend n root v ks st p = .ok (x, st')) :
    st.depth ≤ st'.depth ∧ st.seen ⊆ st'.seen ∧ st'.cur = st.cur :=
  (growAt n).descend _ _ _ _ _ _ _ h

theorem finalLoop_depth_mono {n : Nat} {root : Mapping} {v : Value} {st : RState} {x : Value}
    {st' : RState} (h : finalLoop n root v st = .ok (x, st')) :
    st.depth ≤ st'.depth ∧ st.seen ⊆ st'.seen ∧ st'.cur = st.cur :=
  (growAt n).finalLoop _ _ _ _ _ h

theorem interpStrOrVl_depth_mono {n : Nat} {root : Mapping} {v : Value} {st : RState} {x : Value}
    {st' : RState} (h : interpStrOrVl n root v st = .ok (x, st')) :
    st.depth ≤ st'.depth ∧ st.seen ⊆ st'.seen ∧ st'.cur = st.cur :=
  (growAt n).interpStrOrVl _ _ _ _ _ h

theorem strLoop_depth_mono {n : Nat} {root : Mapping} {v : Value} {st : RState} {x : Value}
    {st' : RState} (h : strLoop n root v st = .ok (x, st')) :
    st.depth ≤ st'.depth ∧ st.seen ⊆ st'.seen ∧ st'.cur = st.cur :=
  (growAt n).strLoop _ _ _ _ _ h

theorem tokResolve_ref_depth_lt {n : Nat} {root : Mapping} {parts : List Token} {st : RState}
    {x : Value} {st' : RState} (h : tokResolve n root (.ref parts) st = .ok (x, st')) :
    st.depth + 1 ≤ st'.depth ∧ st.depth + 1 ≤ maxDepth := by
  cases n with
  | zero => cases h
  | succ n =>
    obtain ⟨hd, _, _, _, _, _, _, -, -, -, -, h1, h2⟩ := tokResolve_ref_ok h
    exact ⟨Nat.le_trans (descend_depth_mono h1).1 (finalLoop_depth_mono h2).1, hd⟩

theorem tokResolve_nonref_lit {n : Nat} {root : Mapping} {t : Token} {st st' : RState} {v : Value}
    (ht : ∀ p, t ≠ .ref p) (h : tokResolve n root t st = .ok (v, st')) :
    ∃ s, v = .lit s ∧ st' = st := by
  cases n with
  | zero => cases h
  | succ n =>
    cases t with
    | lit s => cases h; exact ⟨s, rfl, rfl⟩
    | combined ts =>
      simp only [tokResolve_combinedB, bind1_ok] at h
      obtain ⟨s, -, h⟩ := h
      cases h; exact ⟨s, rfl, rfl⟩
    | ref p => exact absurd rfl (ht p)

/-! ## Small facts used by the reference-chain theorems -/

theorem splitColon_of_not_mem {a : Str} (h : ':' ∉ a) : splitColon a = [a] := by
  induction a with
  | nil => rfl
  | cons c cs ih =>
    have hc : c ≠ ':' := fun e => h (by simp [e])
    have hcs : ':' ∉ cs := fun m => h (List.mem_cons_of_mem _ m)
    simp [splitColon, ih hcs, hc]

theorem slice_cons_lit (n : Nat) (root : Mapping) (s : Str) (ts : List Token) (st : RState) :
    slice (n+2) root (.lit s :: ts) st =
      bind1 (slice (n+1) root ts st) fun s' => .ok (s ++ s') := by
  rw [slice_consB]; rfl

theorem slice_single_lit (k : Nat) (root : Mapping) (a : Str) (st : RState) :
    slice (k+2) root [.lit a] st = .ok a := by
  rw [slice_cons_lit]; exact congrArg Except.ok (List.append_nil a)

theorem finalLoop_strB (n : Nat) (root : Mapping) (s : Str) (st : RState) :
    finalLoop (n+1) root (.str s) st =
      bind2 (interp n root (.str s) st) fun v' st' => finalLoop n root v' st' := by
  rw [finalLoop_succB]; rfl

theorem tokResolve_ref_lit (n : Nat) {root : Mapping} {a : Str} {v0 : Value} (st : RState)
    (hcolon : ':' ∉ a) (hget : root.get (.str a) = some v0) :
    tokResolve (n+3) root (.ref [.lit a]) st =
      if st.depth + 1 > maxDepth then .error (.depth st.curKey)
      else if a ∈ st.seen then .error .loop
      else finalLoop (n+2) root v0 { st with depth := st.depth + 1, seen := a :: st.seen } := by
  rw [tokResolve_refB, slice_single_lit]
  simp only [bind1, splitColon_of_not_mem hcolon, hget, descend_nil, bind2]
  rfl

/-- The fuel: `interp (n+6)` calls `tokRender (n+5)`, which calls `tokResolve (n+4)` and then `interp
(n+4)` on what that returns; `tokResolve (n+4)` renders the path with `slice (n+3)` (a literal
piece needs 2, `slice_single_lit`) and hands the target to `finalLoop (n+3)`. -/
theorem interp_wholeRef (n : Nat) (root : Mapping) (s a : Str) (st : RState) (v0 : Value)
    (hparse : Token.parse s = .ok (some (.ref [.lit a]))) (hcolon : ':' ∉ a)
    (hget : root.get (.str a) = some v0) :
    interp (n+6) root (.str s) st =
      if st.depth + 1 > maxDepth then .error (.depth st.curKey)
      else if a ∈ st.seen then .error .loop
      else
        match finalLoop (n+3) root v0 { st with depth := st.depth + 1, seen := a :: st.seen } with
        | .error e => .error e
        | .ok (v, st3) => interp (n+4) root v st3 := by
  rw [interp_str, hparse]
  simp only
  rw [tokRender_succ, tokResolve_ref_lit (n+1) st hcolon hget]
  by_cases hd : st.depth + 1 > maxDepth
  · simp only [hd, if_true]
  · by_cases hs : a ∈ st.seen
    · simp only [hd, hs, if_true, if_false]
    · simp only [hd, hs, if_false]
      rcases finalLoop (n+3) root v0 { st with depth := st.depth + 1, seen := a :: st.seen }
        with _ | ⟨_, _⟩ <;> rfl

theorem interpEs_ok_all {n : Nat} {root : Mapping} {ck ok : List Key} {st : RState} :
    ∀ {es : List (Key × Value)} {acc m : Mapping}, interpEs n root es ck ok st acc = .ok m →
    ∀ k v, (k, v) ∈ es → ∃ x st', interp n root v (st.pushMappingKey k) = .ok (x, st') := by
  induction n with
  | zero => intro es acc m h; cases h
  | succ n ih =>
    intro es acc m h k v hm
    cases es with
    | nil => cases hm
    | cons kv rest =>
      obtain ⟨k0, v0⟩ := kv
      simp only [interpEs_consB, bind2_ok, bind1_ok] at h
      obtain ⟨v', st', hi, _, -, _, -, h⟩ := h
      rcases List.mem_cons.1 hm with heq | hrest
      · cases heq
        exact ⟨v', st', interp_fuel_mono _ _ _ hi (by simp)⟩
      · obtain ⟨x, st1, hx⟩ := ih h k v hrest
        exact ⟨x, st1, interp_fuel_mono _ _ _ hx (by simp)⟩

theorem interpL_ok_all {n : Nat} {root : Mapping} {st : RState} :
    ∀ {l : List Value} {idx : Nat} {xs : List Value}, interpL n root l idx st = .ok xs →
    xs.length = l.length ∧ ∀ i (h : i < l.length) (h' : i < xs.length),
      ∃ st', interp n root l[i] (st.pushListIndex (idx + i)) = .ok (xs[i], st') := by
  induction n with
  | zero => intro l idx xs h; cases h
  | succ n ih =>
    intro l idx xs h
    cases l with
    | nil => cases h; exact ⟨rfl, fun i hi => absurd hi (Nat.not_lt_zero i)⟩
    | cons v vs =>
      simp only [interpL_consB, bind2_ok, bind1_ok] at h
      obtain ⟨x, st', hi, ys, hr, h⟩ := h
      cases h
      obtain ⟨hlen, hall⟩ := ih hr
      refine ⟨congrArg (· + 1) hlen, fun i hi1 hi2 => ?_⟩
      cases i with
      | zero => exact ⟨st', interp_fuel_mono _ _ _ hi (by simp)⟩
      | succ j =>
        obtain ⟨st1, h1⟩ := hall j (Nat.lt_of_succ_lt_succ hi1) (Nat.lt_of_succ_lt_succ hi2)
        rw [← Nat.add_assoc, Nat.add_right_comm idx j 1]
        exact ⟨st1, interp_fuel_mono _ _ _ h1 (by simp)⟩

theorem interpL_of_all {n : Nat} {root : Mapping} {st : RState} :
    ∀ (l : List Value) (idx : Nat) (xs : List Value), xs.length = l.length →
    (∀ i (h : i < l.length) (h' : i < xs.length),
      ∃ st', interp n root l[i] (st.pushListIndex (idx + i)) = .ok (xs[i], st')) →
    interpL (n + l.length + 1) root l idx st = .ok xs := by
  intro l
  induction l with
  | nil =>
    intro idx xs hlen _
    cases xs with
    | nil => rfl
    | cons _ _ => cases hlen
  | cons v vs ih =>
    intro idx xs hlen hall
    cases xs with
    | nil => cases hlen
    | cons x xs =>
      obtain ⟨st0, (h0 : interp n root v (st.pushListIndex idx) = .ok (x, st0))⟩ :=
        hall 0 (Nat.succ_pos _) (Nat.succ_pos _)
      have hrest := ih (idx + 1) xs (Nat.succ.inj hlen) fun i h h' => by
        obtain ⟨st1, h1⟩ := hall (i + 1) (Nat.succ_lt_succ h) (Nat.succ_lt_succ h')
        rw [Nat.add_right_comm idx 1 i, Nat.add_assoc]
        exact ⟨st1, h1⟩
      rw [show n + (v :: vs).length + 1 = (n + vs.length + 1) + 1 by rw [List.length_cons]; omega,
        interpL_consB, interp_fuel_mono_le (m := n + vs.length + 1) (by omega) _ _ _ h0 (by simp), hrest]
      rfl

/-! ## Which errors the fuel-free helpers can report -/

/-- The errors that the functions taking no fuel can report: inserting and merging (`constKey`,
`mergeConflict`, the two unreachable merge targets), flattening (`flattenString`), rendering as
JSON or as a raw string (`rawStringOf`, a layer list reaching `serde_json`). -/
def Err.isHelper : Err → Bool
  | .mergeConflict .. | .constKey _ | .flattenString _ | .rawStringOf _
  | .panic .mergeTargetStr | .panic .mergeTargetVl | .panic .jsonVl => true
  | _ => false

theorem insertImpl_helper (m : Mapping) (k : Key) (v : Value) (fc fo : Bool) :
    ErrIn (·.isHelper) (m.insertImpl k v fc fo) := by
  intro e h
  unfold Mapping.insertImpl at h
  dsimp only at h
  split at h
  · cases h
  · split at h
    · cases h; rfl
    · cases h

theorem mergeEntries_helper (ock ook : List Key) : ∀ (es : List (Key × Value)) (m : Mapping),
    ErrIn (·.isHelper) (m.mergeEntries ock ook es)
  | [], _ => .ok
  | (k, v) :: rest, m => by
    rw [mergeEntries_consB]
    exact .bind1 (insertImpl_helper _ _ _ _ _) fun m' => mergeEntries_helper ock ook rest m'

theorem mergeNonVl_helper (a b : Value) (st : RState) : ErrIn (·.isHelper) (mergeNonVl a b st) := by
  intro e h
  rcases mergeNonVl_error h with ⟨_, _, _, _, _, _, -, -, hm⟩ | ⟨_, _, rfl⟩ | ⟨rfl, -⟩ |
    ⟨rfl, -⟩
  · exact mergeEntries_helper _ _ _ _ e hm
  · rfl
  · rfl
  · rfl

mutual
theorem flat_helper : ∀ (v : Value) (st : RState), ErrIn (·.isHelper) (flat v st)
  | .vl l, st => by rw [flat_vl]; exact flatVl_helper l .null st
  | .map es ck ok, st => by
    rw [flat_mapB]; exact .bind1 (flatEs_helper es ck ok st {}) fun _ => .ok
  | .seq l, st => by rw [flat_seqB]; exact .bind1 (flatL_helper l st) fun _ => .ok
  | .str s, st => by rw [flat_str]; exact .error rfl
  | .null, st | .bool _, st | .num _, st | .lit _, st => by
    rw [flat_scalar rfl rfl rfl rfl]; exact .ok
theorem flatVl_helper : ∀ (l : List Value) (base : Value) (st : RState),
    ErrIn (·.isHelper) (flatVl l base st)
  | [], base, st => by rw [flatVl_nil]; exact .ok
  | v :: rest, base, st => by
    rw [flatVl_consB]; exact .bind1 (mergeV_helper base v st) fun b => flatVl_helper rest b st
theorem mergeV_helper : ∀ (self other : Value) (st : RState), ErrIn (·.isHelper) (mergeV self other st)
  | self, .null, st => by rw [mergeV_null]; exact .ok
  | self, .vl l, st => by
    rw [mergeV_vl]; exact .bind1 (flatVl_helper l .null st) fun _ => mergeNonVl_helper _ _ _
  | self, .map .., st | self, .seq _, st | self, .str _, st | self, .bool _, st | self, .num _, st
  | self, .lit _, st => by rw [mergeV_of_not_vl rfl rfl]; exact mergeNonVl_helper _ _ _
theorem flatL_helper : ∀ (l : List Value) (st : RState), ErrIn (·.isHelper) (flatL l st)
  | [], st => by rw [flatL]; exact .ok
  | v :: vs, st => by
    rw [flatL_consB]
    exact .bind1 (flat_helper v st) fun _ => .bind1 (flatL_helper vs st) fun _ => .ok
theorem flatEs_helper : ∀ (es : List (Key × Value)) (ck ok : List Key) (st : RState) (acc : Mapping),
    ErrIn (·.isHelper) (flatEs es ck ok st acc)
  | [], ck, ok, st, acc => by rw [flatEs]; exact .ok
  | (k, v) :: rest, ck, ok, st, acc => by
    rw [flatEs_consB]
    exact .bind1 (flat_helper v st) fun _ => .bind1 (insertImpl_helper _ _ _ _ _) fun acc' =>
      flatEs_helper rest ck ok st acc'
end

mutual
theorem jsonOf_helper : ∀ (v : Value), ErrIn (·.isHelper) (jsonOf v)
  | .seq l => by rw [jsonOf_seqB]; exact .bind1 (jsonOfL_helper l) fun _ => .ok
  | .map es _ _ => by rw [jsonOf_mapB]; exact .bind1 (jsonOfEs_helper es []) fun _ => .ok
  | .vl _ => by rw [jsonOf]; exact .error rfl
  | .null | .bool true | .bool false | .num _ | .str _ | .lit _ => by rw [jsonOf]; exact .ok
theorem jsonOfL_helper : ∀ (l : List Value), ErrIn (·.isHelper) (jsonOfL l)
  | [] => by rw [jsonOfL]; exact .ok
  | v :: vs => by
    rw [jsonOfL_consB]; exact .bind1 (jsonOf_helper v) fun _ => .bind1 (jsonOfL_helper vs) fun _ => .ok
theorem jsonOfEs_helper : ∀ (es : List (Key × Value)) (acc : List (Str × Str)),
    ErrIn (·.isHelper) (jsonOfEs es acc)
  | [], acc => by rw [jsonOfEs]; exact .ok
  | (k, v) :: rest, acc => by
    rw [jsonOfEs_consB]; exact .bind1 (jsonOf_helper v) fun _ => jsonOfEs_helper rest _
end

theorem rawString_helper (v : Value) : ErrIn (·.isHelper) (rawString v) := by
  cases v with
  | map _ _ _ | seq _ => exact jsonOf_helper _
  | str _ | vl _ => exact .error rfl
  | bool b => cases b <;> exact .ok
  | _ => exact .ok

/-! ## Termination

Every evaluator call settles on a non-fuel outcome.  Measure: lexicographically
(`maxDepth + 1 - st.depth`, token / value size) — every `Ref` resolution hands a strictly deeper
state to everything it calls, everything else recurses on smaller tokens or values at the same
depth — plus a separate size argument (`sz`) for the second pass of the `ValueList` arm, which
re-interpolates a merge of already interpolated, hence string-free, values. -/

namespace Termination

mutual
def StrFree : Value → Prop
  | .str _ => False
  | .vl l => StrFreeL l
  | .map es _ _ => StrFreeEs es
  | .seq l => StrFreeL l
  | _ => True
def StrFreeL : List Value → Prop
  | [] => True
  | v :: vs => StrFree v ∧ StrFreeL vs
def StrFreeEs : List (Key × Value) → Prop
  | [] => True
  | (_, v) :: es => StrFree v ∧ StrFreeEs es
end

mutual
/-- Size measure under which merging and re-inserting never grow a value:
scalars 1, sequence `1 + Σ`, mapping `1 + Σ (4 + sz v)`, layer list `2 + Σ (1 + sz l)`.
The 4 per entry pays for an insert onto an existing key, where `combine` may wrap the old and the
new value in a fresh layer list, `sz (.vl [old, v]) = sz old + sz v + 4` (`combine_good`).  The 2
keeps even the empty layer list above the `null` it collapses to, so that the second pass of the
`ValueList` arm runs on a strictly smaller value (`conv_strFree`). -/
def sz : Value → Nat
  | .map es _ _ => 1 + szEs es
  | .seq l => 1 + szL l
  | .vl l => 2 + szVl l
  | _ => 1
def szL : List Value → Nat
  | [] => 0
  | v :: vs => sz v + szL vs
def szVl : List Value → Nat
  | [] => 0
  | v :: vs => 1 + sz v + szVl vs
def szEs : List (Key × Value) → Nat
  | [] => 0
  | (_, v) :: es => 4 + sz v + szEs es
end

theorem sz_pos (v : Value) : 1 ≤ sz v := by cases v <;> simp [sz] <;> omega

theorem szVl_eq (l : List Value) : szVl l = l.length + szL l := by
  induction l with
  | nil => simp [szVl, szL]
  | cons v vs ih => simp [szVl, szL, ih]; omega

theorem szL_append (a b : List Value) : szL (a ++ b) = szL a + szL b := by
  induction a with
  | nil => simp [szL]
  | cons v vs ih => simp [szL, ih]; omega

theorem szVl_append (a b : List Value) : szVl (a ++ b) = szVl a + szVl b := by
  induction a with
  | nil => simp [szVl]
  | cons v vs ih => simp [szVl, ih]; omega

theorem szEs_append (a b : List (Key × Value)) : szEs (a ++ b) = szEs a + szEs b := by
  induction a with
  | nil => simp [szEs]
  | cons kv es ih => obtain ⟨k, v⟩ := kv; simp [szEs, ih]; omega

theorem strFreeL_append {a b : List Value} : StrFreeL (a ++ b) ↔ StrFreeL a ∧ StrFreeL b := by
  induction a with
  | nil => simp [StrFreeL]
  | cons v vs ih => simp [StrFreeL, ih, and_assoc]

theorem strFreeEs_append {a b : List (Key × Value)} : StrFreeEs (a ++ b) ↔ StrFreeEs a ∧ StrFreeEs b := by
  induction a with
  | nil => simp [StrFreeEs]
  | cons kv es ih => obtain ⟨k, v⟩ := kv; simp [StrFreeEs, ih, and_assoc]

theorem combine_good {old v : Value} (ho : StrFree old) (hv : StrFree v) :
    StrFree (combine old v) ∧ sz (combine old v) ≤ sz old + sz v + 4 := by
  unfold combine
  split
  · simp only [StrFree, sz, strFreeL_append, szVl_append] at ho hv ⊢
    exact ⟨⟨ho, hv⟩, by omega⟩
  · simp only [StrFree, StrFreeL, sz, szVl, strFreeL_append, szVl_append] at ho ⊢
    exact ⟨⟨ho, hv, trivial⟩, by omega⟩
  · simp only [StrFree, StrFreeL, sz, szVl] at hv ⊢
    exact ⟨⟨ho, hv⟩, by omega⟩
  · simp only [StrFree, StrFreeL, sz, szVl]
    exact ⟨⟨ho, hv, trivial⟩, by omega⟩

theorem lookup_strFree {k : Key} {es : List (Key × Value)} {old : Value}
    (h : lookup k es = some old) (hes : StrFreeEs es) : StrFree old := by
  induction es with
  | nil => simp [lookup] at h
  | cons kv es ih =>
    obtain ⟨k', v'⟩ := kv
    simp only [lookup] at h
    simp only [StrFreeEs] at hes
    by_cases hk : k' = k
    · simp only [hk, if_true, Option.some.injEq] at h; exact h ▸ hes.1
    · simp only [hk, if_false] at h; exact ih h hes.2

theorem replaceVal_good {k : Key} {v old : Value} {es : List (Key × Value)}
    (h : lookup k es = some old) (hes : StrFreeEs es) (hv : StrFree v) :
    StrFreeEs (replaceVal k v es) ∧ szEs (replaceVal k v es) + sz old = szEs es + sz v := by
  induction es with
  | nil => simp [lookup] at h
  | cons kv es ih =>
    obtain ⟨k', v'⟩ := kv
    simp only [lookup] at h
    simp only [StrFreeEs] at hes
    by_cases hk : k' = k
    · simp only [hk, if_true, Option.some.injEq] at h
      subst h
      simp only [replaceVal, hk, if_true, StrFreeEs, szEs]
      exact ⟨⟨hv, hes.2⟩, by omega⟩
    · simp only [hk, if_false] at h
      obtain ⟨h1, h2⟩ := ih h hes.2
      simp only [replaceVal, hk, if_false, StrFreeEs, szEs]
      exact ⟨⟨hes.1, h1⟩, by omega⟩

theorem insertImpl_good {m m' : Mapping} {k : Key} {v : Value} {fc fo : Bool}
    (h : m.insertImpl k v fc fo = .ok m') (hm : StrFreeEs m.es) (hv : StrFree v) :
    StrFreeEs m'.es ∧ szEs m'.es ≤ szEs m.es + 4 + sz v := by
  unfold Mapping.insertImpl at h
  simp only at h
  cases hl : lookup k.stripPrefix.1 m.es with
  | none =>
    simp only [hl, Except.ok.injEq] at h
    subst h
    simp only [strFreeEs_append, szEs_append, StrFreeEs, szEs]
    exact ⟨⟨hm, hv, trivial⟩, by omega⟩
  | some old =>
    simp only [hl] at h
    split at h
    · simp at h
    · simp only [Except.ok.injEq] at h
      subst h
      simp only
      have hold := lookup_strFree hl hm
      split
      · obtain ⟨h1, h2⟩ := replaceVal_good hl hm hv
        exact ⟨h1, by omega⟩
      · obtain ⟨hc1, hc2⟩ := combine_good hold hv
        obtain ⟨h1, h2⟩ := replaceVal_good hl hm hc1
        exact ⟨h1, by omega⟩

theorem mergeEntries_good {ock ook : List Key} : ∀ {es : List (Key × Value)} {m m' : Mapping},
    m.mergeEntries ock ook es = .ok m' → StrFreeEs m.es → StrFreeEs es →
    StrFreeEs m'.es ∧ szEs m'.es ≤ szEs m.es + szEs es := by
  intro es
  induction es with
  | nil => intro m m' h hm _; cases h; exact ⟨hm, Nat.le_refl _⟩
  | cons kv es ih =>
    intro m m' h hm hes
    obtain ⟨k, v⟩ := kv
    simp only [mergeEntries_consB, bind1_ok] at h
    obtain ⟨m1, h1, h⟩ := h
    obtain ⟨a1, a2⟩ := insertImpl_good h1 hm hes.1
    obtain ⟨b1, b2⟩ := ih h a1 hes.2
    exact ⟨b1, by simp only [szEs]; omega⟩

theorem mergeNonVl_good {a b r : Value} {st : RState} (h : mergeNonVl a b st = .ok r)
    (ha : StrFree a) (hb : StrFree b) : StrFree r ∧ sz r ≤ sz a + sz b := by
  have hpa := sz_pos a
  rcases mergeNonVl_ok h with ⟨-, rfl⟩ | ⟨es, ck, ok, es', ck', ok', m, rfl, rfl, hm, rfl⟩ |
    ⟨s, s', rfl, rfl, rfl⟩ | ⟨-, -, -, rfl⟩
  · exact ⟨hb, by omega⟩
  · obtain ⟨h1, h2⟩ := mergeEntries_good hm ha hb
    simp only [Mapping.toValue, sz] at h2 ⊢
    exact ⟨h1, by omega⟩
  · simp only [StrFree, sz, szL_append, strFreeL_append] at ha hb ⊢
    exact ⟨⟨ha, hb⟩, by omega⟩
  · exact ⟨hb, by omega⟩

mutual
theorem flat_good : ∀ (v : Value) (st : RState) (r : Value), flat v st = .ok r → StrFree v →
    StrFree r ∧ sz r ≤ sz v
  | .vl l, st, r, h, hv => by
    rw [flat_vl] at h
    obtain ⟨h1, h2⟩ := flatVl_good l .null st r h hv trivial
    have := szVl_eq l
    simp only [sz] at h2 ⊢
    exact ⟨h1, by omega⟩
  | .map es ck ok, st, r, h, hv => by
    simp only [flat_mapB, bind1_ok] at h
    obtain ⟨m, h1, h⟩ := h
    cases h
    obtain ⟨a1, a2⟩ := flatEs_good es ck ok st {} m h1 hv trivial
    simp only [Mapping.toValue, sz, szEs] at a2 ⊢
    exact ⟨a1, by omega⟩
  | .seq l, st, r, h, hv => by
    simp only [flat_seqB, bind1_ok] at h
    obtain ⟨l', h1, h⟩ := h
    cases h
    obtain ⟨a1, a2⟩ := flatL_good l st l' h1 hv
    exact ⟨a1, Nat.add_le_add_left a2 1⟩
  | .str _, st, r, h, hv => hv.elim
  | .null, st, r, h, hv | .bool _, st, r, h, hv | .num _, st, r, h, hv | .lit _, st, r, h, hv => by
    rw [flat_scalar rfl rfl rfl rfl] at h; cases h; exact ⟨hv, Nat.le_refl _⟩
theorem flatVl_good : ∀ (l : List Value) (base : Value) (st : RState) (r : Value),
    flatVl l base st = .ok r → StrFreeL l → StrFree base → StrFree r ∧ sz r ≤ sz base + szL l
  | [], base, st, r, h, _, hb => by rw [flatVl_nil] at h; cases h; exact ⟨hb, Nat.le_refl _⟩
  | v :: rest, base, st, r, h, hl, hb => by
    simp only [flatVl_consB, bind1_ok] at h
    obtain ⟨b, h1, h⟩ := h
    obtain ⟨a1, a2⟩ := mergeV_good base v st b h1 hb hl.1
    obtain ⟨b1, b2⟩ := flatVl_good rest b st r h hl.2 a1
    exact ⟨b1, by simp only [szL]; omega⟩
theorem mergeV_good : ∀ (self other : Value) (st : RState) (r : Value),
    mergeV self other st = .ok r → StrFree self → StrFree other → StrFree r ∧ sz r ≤ sz self + sz other
  | self, .null, st, r, h, _, _ => by
    rw [mergeV_null] at h; cases h
    exact ⟨trivial, Nat.le_add_left _ _⟩
  | self, .vl l, st, r, h, hs, ho => by
    simp only [mergeV_vl, bind1_ok] at h
    obtain ⟨o, h1, h⟩ := h
    obtain ⟨a1, a2⟩ := flatVl_good l .null st o h1 ho trivial
    obtain ⟨b1, b2⟩ := mergeNonVl_good h hs a1
    have := szVl_eq l
    simp only [sz] at a2 b2 ⊢
    exact ⟨b1, by omega⟩
  | self, .str _, st, r, h, hs, ho => ho.elim
  | self, .map .., st, r, h, hs, ho | self, .seq _, st, r, h, hs, ho | self, .bool _, st, r, h, hs, ho
  | self, .num _, st, r, h, hs, ho | self, .lit _, st, r, h, hs, ho => by
    rw [mergeV_of_not_vl rfl rfl] at h; exact mergeNonVl_good h hs ho
theorem flatL_good : ∀ (l : List Value) (st : RState) (r : List Value),
    flatL l st = .ok r → StrFreeL l → StrFreeL r ∧ szL r ≤ szL l
  | [], st, r, h, _ => by rw [flatL] at h; cases h; exact ⟨trivial, Nat.le_refl _⟩
  | v :: vs, st, r, h, hl => by
    simp only [flatL_consB, bind1_ok] at h
    obtain ⟨x, h1, xs, h2, h⟩ := h
    cases h
    obtain ⟨a1, a2⟩ := flat_good v st x h1 hl.1
    obtain ⟨b1, b2⟩ := flatL_good vs st xs h2 hl.2
    exact ⟨⟨a1, b1⟩, Nat.add_le_add a2 b2⟩
theorem flatEs_good : ∀ (es : List (Key × Value)) (ck ok : List Key) (st : RState) (acc m : Mapping),
    flatEs es ck ok st acc = .ok m → StrFreeEs es → StrFreeEs acc.es →
    StrFreeEs m.es ∧ szEs m.es ≤ szEs acc.es + szEs es
  | [], ck, ok, st, acc, m, h, _, ha => by rw [flatEs] at h; cases h; exact ⟨ha, Nat.le_refl _⟩
  | (k, v) :: rest, ck, ok, st, acc, m, h, hes, ha => by
    simp only [flatEs_consB, bind1_ok] at h
    obtain ⟨v', h1, acc', h2, h⟩ := h
    obtain ⟨a1, a2⟩ := flat_good v st v' h1 hes.1
    obtain ⟨b1, b2⟩ := insertImpl_good h2 ha a1
    obtain ⟨c1, c2⟩ := flatEs_good rest ck ok st acc' m h hes.2 b1
    exact ⟨c1, by simp only [szEs]; omega⟩
end

/-! ### The fuel-free helpers never report the fuel error -/

theorem ne_fuel_of_helper {α : Type} {x : R α} (h : ErrIn (·.isHelper) x) : x ≠ .error .fuel :=
  h.ne Bool.false_ne_true

theorem flat_noFuel (v : Value) (st : RState) : flat v st ≠ .error .fuel :=
  ne_fuel_of_helper (flat_helper v st)

theorem flatL_noFuel : ∀ (l : List Value) (st : RState), flatL l st ≠ .error .fuel :=
  fun l st => ne_fuel_of_helper (flatL_helper l st)

theorem flatEs_noFuel : ∀ (es : List (Key × Value)) (ck ok : List Key) (st : RState) (acc : Mapping),
    flatEs es ck ok st acc ≠ .error .fuel :=
  fun es ck ok st acc => ne_fuel_of_helper (flatEs_helper es ck ok st acc)

theorem jsonOfL_noFuel : ∀ (l : List Value), jsonOfL l ≠ .error .fuel :=
  fun l => ne_fuel_of_helper (jsonOfL_helper l)

theorem jsonOfEs_noFuel : ∀ (es : List (Key × Value)) (acc : List (Str × Str)),
    jsonOfEs es acc ≠ .error .fuel :=
  fun es acc => ne_fuel_of_helper (jsonOfEs_helper es acc)

structure OutAt (n : Nat) : Prop where
  interp : ∀ root v st x st', interp n root v st = .ok (x, st') → StrFree x ∧ x.isVl = false
  interpL : ∀ root l idx st xs, interpL n root l idx st = .ok xs → StrFreeL xs
  interpEs : ∀ root es ck ok st acc m, interpEs n root es ck ok st acc = .ok m →
    StrFreeEs acc.es → StrFreeEs m.es
  interpVl : ∀ root l r st r', interpVl n root l r st = .ok r' → StrFree r → StrFree r'
  tokRender : ∀ root t st x st', tokRender n root t st = .ok (x, st') → StrFree x ∧ x.isVl = false

theorem outAt_succ {n : Nat} (ih : OutAt n) : OutAt (n+1) := by
  constructor
  · intro root v st x st' h
    cases v with
    | str s =>
      simp only [interp_strB, bind1_ok] at h
      obtain ⟨o, -, h⟩ := h
      cases o with
      | none => cases h; exact ⟨trivial, rfl⟩
      | some t => exact ih.tokRender _ _ _ _ _ h
    | map es ck ok =>
      simp only [interp_mapB, bind1_ok] at h
      obtain ⟨m, hc, h⟩ := h
      cases h
      exact ⟨ih.interpEs _ _ _ _ _ _ _ hc trivial, rfl⟩
    | seq l =>
      simp only [interp_seqB, bind1_ok] at h
      obtain ⟨l', hc, h⟩ := h
      cases h
      exact ⟨ih.interpL _ _ _ _ _ hc, rfl⟩
    | vl l =>
      simp only [interp_vlB, bind1_ok] at h
      obtain ⟨r, -, h⟩ := h
      exact ih.interp _ _ _ _ _ h
    | _ => cases h; exact ⟨trivial, rfl⟩
  · intro root l idx st xs h
    cases l with
    | nil => cases h; trivial
    | cons v vs =>
      simp only [interpL_consB, bind2_ok, bind1_ok] at h
      obtain ⟨x, st', hi, ys, hr, h⟩ := h
      cases h
      exact ⟨(ih.interp _ _ _ _ _ hi).1, ih.interpL _ _ _ _ _ hr⟩
  · intro root es ck ok st acc m h hacc
    cases es with
    | nil => cases h; exact hacc
    | cons kv rest =>
      obtain ⟨k, v⟩ := kv
      simp only [interpEs_consB, bind2_ok, bind1_ok] at h
      obtain ⟨v', st', hi, v'', hfl, acc', hins, h⟩ := h
      have h2 := (flat_good _ _ _ hfl (ih.interp _ _ _ _ _ hi).1).1
      exact ih.interpEs _ _ _ _ _ _ _ h (insertImpl_good hins hacc h2).1
  · intro root l r st r' h hr
    cases l with
    | nil => cases h; exact hr
    | cons v vs =>
      simp only [interpVl_consB, bind2_ok, bind1_ok] at h
      obtain ⟨x, st', hi, r1, hm, h⟩ := h
      exact ih.interpVl _ _ _ _ _ h (mergeV_good _ _ _ _ hm hr (ih.interp _ _ _ _ _ hi).1).1
  · intro root t st x st' h
    simp only [tokRender_succB, bind2_ok] at h
    obtain ⟨v, st1, -, h⟩ := h
    cases t with
    | ref parts => exact ih.interp _ _ _ _ _ h
    | _ =>
      simp only [bind1_ok] at h
      obtain ⟨s', -, h⟩ := h
      cases h; exact ⟨trivial, rfl⟩

theorem outAt : ∀ n, OutAt n := by
  intro n
  induction n with
  | zero =>
    exact ⟨fun _ _ _ _ _ h => (nomatch h), fun _ _ _ _ _ h => (nomatch h), fun _ _ _ _ _ _ _ h => (nomatch h),
      fun _ _ _ _ _ h => (nomatch h), fun _ _ _ _ _ h => (nomatch h)⟩
  | succ n ih => exact outAt_succ ih

theorem strFree_isStr {x : Value} (h : StrFree x) : x.isStr = false := by
  cases x <;> simp_all [StrFree, Value.isStr]

structure InAt (n : Nat) : Prop where
  interp : ∀ root v st x st', interp n root v st = .ok (x, st') → StrFree v → sz x ≤ sz v
  interpL : ∀ root l idx st xs, interpL n root l idx st = .ok xs → StrFreeL l → szL xs ≤ szL l
  interpEs : ∀ root es ck ok st acc m, interpEs n root es ck ok st acc = .ok m →
    StrFreeEs es → StrFreeEs acc.es → szEs m.es ≤ szEs acc.es + szEs es
  interpVl : ∀ root l r st r', interpVl n root l r st = .ok r' → StrFreeL l → StrFree r →
    sz r' ≤ sz r + szL l

theorem inAt_succ {n : Nat} (ih : InAt n) : InAt (n+1) := by
  have out := outAt n
  constructor
  · intro root v st x st' h hv
    cases v with
    | str s => exact hv.elim
    | map es ck ok =>
      simp only [interp_mapB, bind1_ok] at h
      obtain ⟨m, hc, h⟩ := h
      cases h
      have := ih.interpEs _ _ _ _ _ _ _ hc hv trivial
      simp only [Mapping.toValue, sz, szEs] at this ⊢
      omega
    | seq l =>
      simp only [interp_seqB, bind1_ok] at h
      obtain ⟨l', hc, h⟩ := h
      cases h
      exact Nat.add_le_add_left (ih.interpL _ _ _ _ _ hc hv) 1
    | vl l =>
      simp only [interp_vlB, bind1_ok] at h
      obtain ⟨r, hc, h⟩ := h
      have h1 := ih.interpVl _ _ _ _ _ hc hv trivial
      have h3 := ih.interp _ _ _ _ _ h (out.interpVl _ _ _ _ _ hc trivial)
      have := szVl_eq l
      simp only [sz] at h1 ⊢
      omega
    | _ => cases h; exact Nat.le_refl _
  · intro root l idx st xs h hl
    cases l with
    | nil => cases h; exact Nat.le_refl _
    | cons v vs =>
      simp only [interpL_consB, bind2_ok, bind1_ok] at h
      obtain ⟨x, st', hi, ys, hr, h⟩ := h
      cases h
      exact Nat.add_le_add (ih.interp _ _ _ _ _ hi hl.1) (ih.interpL _ _ _ _ _ hr hl.2)
  · intro root es ck ok st acc m h hes hacc
    cases es with
    | nil => cases h; exact Nat.le_refl _
    | cons kv rest =>
      obtain ⟨k, v⟩ := kv
      simp only [interpEs_consB, bind2_ok, bind1_ok] at h
      obtain ⟨v', st', hi, v'', hfl, acc', hins, h⟩ := h
      have h0 := ih.interp _ _ _ _ _ hi hes.1
      obtain ⟨f1, f2⟩ := flat_good _ _ _ hfl (out.interp _ _ _ _ _ hi).1
      obtain ⟨i1, i2⟩ := insertImpl_good hins hacc f1
      have := ih.interpEs _ _ _ _ _ _ _ h hes.2 i1
      simp only [szEs]; omega
  · intro root l r st r' h hl hr
    cases l with
    | nil => cases h; exact Nat.le_refl _
    | cons v vs =>
      simp only [interpVl_consB, bind2_ok, bind1_ok] at h
      obtain ⟨x, st', hi, r1, hm, h⟩ := h
      have h0 := ih.interp _ _ _ _ _ hi hl.1
      obtain ⟨m1, m2⟩ := mergeV_good _ _ _ _ hm hr (out.interp _ _ _ _ _ hi).1
      have := ih.interpVl _ _ _ _ _ h hl.2 m1
      simp only [szL]; omega

theorem inAt : ∀ n, InAt n := by
  intro n
  induction n with
  | zero =>
    exact ⟨fun _ _ _ _ _ h => (nomatch h), fun _ _ _ _ _ h => (nomatch h), fun _ _ _ _ _ _ _ h => (nomatch h),
      fun _ _ _ _ _ h => (nomatch h)⟩
  | succ n ih => exact inAt_succ ih

def Conv {α : Type} (f : Nat → R α) : Prop :=
  ∃ N r, r ≠ .error .fuel ∧ ∀ n, N ≤ n → f n = r

theorem conv_of_ne {α : Type} {f : Nat → R α}
    (mono : ∀ n, f n ≠ .error .fuel → f (n+1) = f n) {n : Nat} (h : f n ≠ .error .fuel) : Conv f :=
  ⟨n, f n, h, fun _ hm => mono_le_of_succ mono h hm⟩

theorem Conv.exists_ne {α : Type} {f : Nat → R α} (h : Conv f) : ∃ n, f n ≠ .error .fuel := by
  obtain ⟨N, r, hne, c⟩ := h
  exact ⟨N, by rw [c N (Nat.le_refl _)]; exact hne⟩

theorem err_ne {α β : Type} {e : Err} (h : (.error e : R α) ≠ .error .fuel) :
    (.error e : R β) ≠ .error .fuel := by
  intro h'; apply h; cases h'; rfl

/-! ### Settling goes through the bind chains -/

theorem Conv.const {α : Type} {r : R α} (h : r ≠ .error .fuel) : Conv (fun _ => r) :=
  ⟨0, r, h, fun _ _ => rfl⟩

theorem Conv.helper {α : Type} {r : R α} (h : ErrIn (·.isHelper) r) : Conv (fun _ => r) :=
  .const (ne_fuel_of_helper h)

theorem Conv.ok {α : Type} (a : α) : Conv (fun _ => (.ok a : R α)) := .const nofun

theorem Conv.error {α : Type} {e : Err} (h : e ≠ .fuel) : Conv (fun _ => (.error e : R α)) :=
  .const fun h' => h (Except.error.inj h')

theorem Conv.succ {α : Type} {f : Nat → R α} (h : Conv (fun n => f (n+1))) : Conv f := by
  obtain ⟨N, r, hne, c⟩ := h
  refine ⟨N+1, r, hne, fun n hn => ?_⟩
  obtain ⟨m, rfl⟩ : ∃ m, n = m + 1 := ⟨n - 1, by omega⟩
  exact c m (by omega)

theorem Conv.shift {α : Type} {f : Nat → R α} (h : Conv f) : Conv (fun n => f (n+1)) := by
  obtain ⟨N, r, hne, c⟩ := h
  exact ⟨N, r, hne, fun n hn => c (n+1) (by omega)⟩

theorem Conv.bind1 {α β : Type} {x : Nat → R α} {f : Nat → α → R β} (hx : Conv x)
    (hf : ∀ a n, x n = .ok a → Conv (fun m => f m a)) : Conv (fun n => bind1 (x n) (f n)) := by
  obtain ⟨N1, r1, hne1, c1⟩ := hx
  cases r1 with
  | error e =>
    exact ⟨N1, .error e, err_ne hne1, fun n hn => by simp only [c1 n hn]; rfl⟩
  | ok a =>
    obtain ⟨N2, r2, hne2, c2⟩ := hf a N1 (c1 N1 (Nat.le_refl _))
    exact ⟨N1 + N2, r2, hne2, fun n hn => by simp only [c1 n (by omega)]; exact c2 n (by omega)⟩

theorem Conv.bind2 {α β γ : Type} {x : Nat → R (α × β)} {f : Nat → α → β → R γ} (hx : Conv x)
    (hf : ∀ a b n, x n = .ok (a, b) → Conv (fun m => f m a b)) :
    Conv (fun n => bind2 (x n) (f n)) := by
  obtain ⟨N1, r1, hne1, c1⟩ := hx
  rcases r1 with e | ⟨a, b⟩
  · exact ⟨N1, .error e, err_ne hne1, fun n hn => by simp only [c1 n hn]; rfl⟩
  · obtain ⟨N2, r2, hne2, c2⟩ := hf a b N1 (c1 N1 (Nat.le_refl _))
    exact ⟨N1 + N2, r2, hne2, fun n hn => by simp only [c1 n (by omega)]; exact c2 n (by omega)⟩

theorem Conv.ite {α : Type} {c : Prop} [Decidable c] {f g : Nat → R α} (hf : c → Conv f)
    (hg : ¬c → Conv g) : Conv (fun n => if c then f n else g n) := by
  by_cases h : c
  · simp only [if_pos h]; exact hf h
  · simp only [if_neg h]; exact hg h

/-! ### List-level composition -/

theorem pushListIndex_depth (st : RState) (idx : Nat) : (st.pushListIndex idx).depth = st.depth := by
  unfold RState.pushListIndex; split <;> rfl

theorem convL {root : Mapping} {st : RState} : ∀ (l : List Value),
    (∀ v, v ∈ l → ∀ st', st'.depth = st.depth → Conv (fun n => interp n root v st')) →
    ∀ idx, Conv (fun n => interpL n root l idx st) := by
  intro l
  induction l with
  | nil => intro _ idx; exact .succ (.ok _)
  | cons v vs ih =>
    intro hv idx
    refine .succ ?_
    simp only [interpL_consB]
    exact .bind2 (hv v List.mem_cons_self _ (pushListIndex_depth _ _)) fun x _ _ _ =>
      .bind1 (ih (fun w hw => hv w (List.mem_cons_of_mem _ hw)) (idx + 1)) fun xs _ _ => .ok _

theorem convEs {root : Mapping} {ck ok : List Key} {st : RState} : ∀ (es : List (Key × Value)),
    (∀ k v, (k, v) ∈ es → ∀ st', st'.depth = st.depth → Conv (fun n => interp n root v st')) →
    ∀ acc, Conv (fun n => interpEs n root es ck ok st acc) := by
  intro es
  induction es with
  | nil => intro _ acc; exact .succ (.ok _)
  | cons kv rest ih =>
    intro hv acc
    obtain ⟨k, v⟩ := kv
    refine .succ ?_
    simp only [interpEs_consB]
    exact .bind2 (hv k v List.mem_cons_self _ rfl) fun v' st' _ _ =>
      .bind1 (.helper (flat_helper _ _)) fun v'' _ _ =>
        .bind1 (.helper (insertImpl_helper _ _ _ _ _)) fun acc' _ _ =>
          ih (fun k' w hw => hv k' w (List.mem_cons_of_mem _ hw)) acc'

theorem convVl {root : Mapping} {st : RState} : ∀ (l : List Value),
    (∀ v, v ∈ l → Conv (fun n => interp n root v st)) →
    ∀ r, Conv (fun n => interpVl n root l r st) := by
  intro l
  induction l with
  | nil => intro _ r; exact .succ (.ok _)
  | cons v vs ih =>
    intro hv r
    refine .succ ?_
    simp only [interpVl_consB]
    exact .bind2 (hv v List.mem_cons_self) fun x st' _ _ =>
      .bind1 (.helper (mergeV_helper _ _ _)) fun r' _ _ =>
        ih (fun w hw => hv w (List.mem_cons_of_mem _ hw)) r'

theorem convLayers {root : Mapping} {st : RState} : ∀ (l : List Value),
    (∀ v, v ∈ l → Conv (fun n => interp n root v st)) →
    Conv (fun n => layersStr n root l st) := by
  intro l
  induction l with
  | nil => intro _; exact .succ (.ok _)
  | cons v vs ih =>
    intro hv
    refine .succ ?_
    simp only [layersStr_consB]
    exact .bind1 (.ite (fun _ => .bind2 (hv v List.mem_cons_self) fun x _ _ _ => .ok _) fun _ => .ok _)
      fun x _ _ => .bind1 (ih fun w hw => hv w (List.mem_cons_of_mem _ hw)) fun xs _ _ => .ok _

/-! ### Size facts about members -/

theorem mem_szL {v : Value} {l : List Value} (h : v ∈ l) : sz v ≤ szL l := by
  induction l with
  | nil => simp at h
  | cons w ws ih =>
    simp only [szL]
    rcases List.mem_cons.1 h with rfl | h'
    · omega
    · have := ih h'; omega

theorem mem_strFreeL {v : Value} {l : List Value} (h : v ∈ l) (hl : StrFreeL l) : StrFree v := by
  induction l with
  | nil => simp at h
  | cons w ws ih =>
    simp only [StrFreeL] at hl
    rcases List.mem_cons.1 h with rfl | h'
    · exact hl.1
    · exact ih h' hl.2

theorem mem_szEs {k : Key} {v : Value} {es : List (Key × Value)} (h : (k, v) ∈ es) :
    sz v + 4 ≤ szEs es := by
  induction es with
  | nil => simp at h
  | cons w ws ih =>
    obtain ⟨k', v'⟩ := w
    simp only [szEs]
    rcases List.mem_cons.1 h with heq | h'
    · simp only [Prod.mk.injEq] at heq; obtain ⟨_, rfl⟩ := heq; omega
    · have := ih h'; omega

theorem mem_strFreeEs {k : Key} {v : Value} {es : List (Key × Value)} (h : (k, v) ∈ es)
    (hl : StrFreeEs es) : StrFree v := by
  induction es with
  | nil => simp at h
  | cons w ws ih =>
    obtain ⟨k', v'⟩ := w
    simp only [StrFreeEs] at hl
    rcases List.mem_cons.1 h with heq | h'
    · simp only [Prod.mk.injEq] at heq; obtain ⟨_, rfl⟩ := heq; exact hl.1
    · exact ih h' hl.2

/-! ### String-free values: the second pass of the `ValueList` arm terminates -/

theorem conv_strFree (root : Mapping) : ∀ (b : Nat) (v : Value), sz v ≤ b → StrFree v →
    ∀ st, Conv (fun n => interp n root v st) := by
  intro b
  induction b with
  | zero => intro v hb; have := sz_pos v; omega
  | succ b ih =>
    intro v hb hv st
    cases v with
    | str s => exact hv.elim
    | map es ck ok =>
      simp only [sz] at hb
      refine .succ ?_
      simp only [interp_mapB]
      exact .bind1 (convEs es (fun k w hw st' _ =>
        ih w (by have := mem_szEs hw; omega) (mem_strFreeEs hw hv) st') {}) fun _ _ _ => .ok _
    | seq l =>
      simp only [sz] at hb
      refine .succ ?_
      simp only [interp_seqB]
      exact .bind1 (convL l (fun w hw st' _ =>
        ih w (by have := mem_szL hw; omega) (mem_strFreeL hw hv) st') 0) fun _ _ _ => .ok _
    | vl l =>
      simp only [sz] at hb
      have hlen := szVl_eq l
      refine .succ ?_
      simp only [interp_vlB]
      refine .bind1 (convVl l (fun w hw =>
        ih w (by have := mem_szL hw; omega) (mem_strFreeL hw hv) st) .null) fun r n hc => ?_
      have h2 := (inAt n).interpVl _ _ _ _ _ hc hv trivial
      simp only [sz] at h2
      exact ih r (by omega) ((outAt n).interpVl _ _ _ _ _ hc trivial) st
    | _ => exact .succ (.ok _)

/-- The parser's own fuel (`parseFuel`) is always sufficient. -/
theorem parse_noFuel (s : Str) : Token.parse s ≠ .error .fuel := by
  unfold Token.parse
  split
  · nofun
  · have h := parseRefF_fuel_enough (n := parseFuel s) (s := s) (by unfold parseFuel; omega)
    split
    · nofun
    · nofun
    · exact absurd ‹_› h

structure AllConv (root : Mapping) (st : RState) : Prop where
  interp : ∀ v, Conv (fun n => interp n root v st)
  interpL : ∀ l idx, Conv (fun n => interpL n root l idx st)
  interpEs : ∀ es ck ok acc, Conv (fun n => interpEs n root es ck ok st acc)
  interpVl : ∀ l r, Conv (fun n => interpVl n root l r st)
  tokRender : ∀ t, Conv (fun n => tokRender n root t st)
  tokResolve : ∀ t, Conv (fun n => tokResolve n root t st)
  descend : ∀ v ks p, Conv (fun n => descend n root v ks st p)
  finalLoop : ∀ v, Conv (fun n => finalLoop n root v st)
  interpStrOrVl : ∀ v, Conv (fun n => interpStrOrVl n root v st)
  layersStr : ∀ l, Conv (fun n => layersStr n root l st)
  slice : ∀ ts, Conv (fun n => slice n root ts st)
  strLoop : ∀ v, Conv (fun n => strLoop n root v st)
  sliceFinish : ∀ v, Conv (fun n => sliceFinish n root v st)

def Lvl (d : Nat) (st : RState) : Prop := maxDepth + 1 - st.depth ≤ d

theorem deeper {d : Nat} {st st' : RState} (hl : Lvl d st) (h1 : st.depth + 1 ≤ maxDepth)
    (h2 : st.depth + 1 ≤ st'.depth) : maxDepth + 1 - st'.depth < d := by
  unfold Lvl at hl; omega

theorem Lvl.mono {d : Nat} {st st' : RState} (hl : Lvl d st) (h : st.depth ≤ st'.depth) : Lvl d st' := by
  unfold Lvl at hl ⊢; omega

theorem conv_tokResolve_ref {root : Mapping} {d : Nat}
    (IH : ∀ st', maxDepth + 1 - st'.depth < d → AllConv root st')
    (parts : List Token) (st : RState) (hl : Lvl d st) :
    Conv (fun n => tokResolve n root (.ref parts) st) := by
  refine .succ ?_
  simp only [tokResolve_refB]
  refine .ite (fun _ => .error nofun) fun hd => ?_
  have hd1 : st.depth + 1 ≤ maxDepth := Nat.le_of_not_gt hd
  refine .bind1 ((IH _ (deeper hl hd1 (Nat.le_refl _))).slice parts) fun path _ _ =>
    .ite (fun _ => .error nofun) fun _ => ?_
  cases splitColon path with
  | nil => exact .error nofun
  | cons k0 segs =>
    dsimp only
    cases root.get (.str k0) with
    | none => exact .error nofun
    | some v0 =>
      exact .bind2 ((IH _ (deeper hl hd1 (Nat.le_refl _))).descend v0 segs path) fun v st3 _ h =>
        (IH st3 (deeper hl hd1 (descend_depth_mono h).1)).finalLoop v

theorem strLoop_nonstr {v : Value} (hv : v.isStr = false) (root : Mapping) (st : RState) :
    ∀ m, 1 ≤ m → strLoop m root v st = .ok (v, st) := by
  intro m hm
  obtain ⟨k, rfl⟩ : ∃ k, m = k + 1 := ⟨m - 1, by omega⟩
  rw [strLoop_succ]; simp [hv]

theorem finalLoop_done {v : Value} (h1 : v.isStr = false) (h2 : v.isVl = false) (root : Mapping)
    (st : RState) : ∀ m, 1 ≤ m → finalLoop m root v st = .ok (v, st) := by
  intro m hm
  obtain ⟨k, rfl⟩ : ∃ k, m = k + 1 := ⟨m - 1, by omega⟩
  rw [finalLoop_succ]; simp [h1, h2]

theorem sliceFinish_lit (s : Str) (root : Mapping) (st : RState) :
    ∀ m, 1 ≤ m → sliceFinish m root (.lit s) st = .ok s := by
  intro m hm
  obtain ⟨k, rfl⟩ : ∃ k, m = k + 1 := ⟨m - 1, by omega⟩
  rw [sliceFinish_succ]; simp [Value.isMap, Value.isSeq, rawString]

theorem tokResolve_ok_cases {n : Nat} {root : Mapping} {t : Token} {st : RState} {v : Value}
    {st' : RState} (h : tokResolve n root t st = .ok (v, st')) :
    (st.depth + 1 ≤ st'.depth ∧ st.depth + 1 ≤ maxDepth) ∨ ∃ s, v = .lit s := by
  cases t with
  | ref parts => exact .inl (tokResolve_ref_depth_lt h)
  | lit _ | combined _ =>
    obtain ⟨s, hs, -⟩ := tokResolve_nonref_lit (by intro p hp; cases hp) h
    exact .inr ⟨s, hs⟩

/-- The pieces of a token list: after a reference piece the two loops run in the strictly deeper
state its resolution returned; a literal piece makes no further evaluator call. -/
theorem conv_slice {root : Mapping} {d : Nat}
    (IH : ∀ st', maxDepth + 1 - st'.depth < d → AllConv root st')
    (st : RState) (hl : Lvl d st) : ∀ (ts : List Token),
    (∀ t, t ∈ ts → Conv (fun n => tokResolve n root t st)) →
    Conv (fun n => slice n root ts st) := by
  intro ts
  induction ts with
  | nil => intro _; exact .succ (.ok _)
  | cons t ts ih =>
    intro ht
    have hrest := ih fun t' h' => ht t' (List.mem_cons_of_mem _ h')
    refine .succ ?_
    simp only [slice_consB]
    refine .bind2 (ht t List.mem_cons_self) fun v st' _ h => ?_
    rcases tokResolve_ok_cases h with ⟨hd1, hd2⟩ | ⟨s, rfl⟩
    · exact .bind2 ((IH st' (deeper hl hd2 hd1)).strLoop v) fun v' st'' _ h2 =>
        .bind1 ((IH st'' (deeper hl hd2 (Nat.le_trans hd1 (strLoop_depth_mono h2).1))).sliceFinish v')
          fun _ _ _ => .bind1 hrest fun _ _ _ => .ok _
    · refine .succ ?_
      show Conv fun n => bind1 (slice (n+1) root ts st) fun s' => .ok (s ++ s')
      exact .bind1 hrest.shift fun _ _ _ => .ok _

theorem conv_tokResolve {root : Mapping} {d : Nat}
    (IH : ∀ st', maxDepth + 1 - st'.depth < d → AllConv root st') :
    ∀ (k : Nat) (t : Token), sizeOf t ≤ k → ∀ st, Lvl d st →
      Conv (fun n => tokResolve n root t st) := by
  intro k
  induction k with
  | zero => intro t ht; cases t <;> simp at ht <;> omega
  | succ k ih =>
    intro t ht st hl
    cases t with
    | lit s => exact .succ (.ok _)
    | ref parts => exact conv_tokResolve_ref IH parts st hl
    | combined ts =>
      simp only [Token.combined.sizeOf_spec] at ht
      refine .succ ?_
      simp only [tokResolve_combinedB]
      exact .bind1 (conv_slice IH st hl ts fun t' h' =>
        ih t' (by have := List.sizeOf_lt_of_mem h'; omega) st hl) fun _ _ _ => .ok _

theorem conv_tokRender {root : Mapping} {d : Nat}
    (IH : ∀ st', maxDepth + 1 - st'.depth < d → AllConv root st')
    (t : Token) (st : RState) (hl : Lvl d st) : Conv (fun n => tokRender n root t st) := by
  refine .succ ?_
  simp only [tokRender_succB]
  refine .bind2 (conv_tokResolve IH _ t (Nat.le_refl _) st hl) fun v st' _ h => ?_
  cases t with
  | ref parts =>
    obtain ⟨hd1, hd2⟩ := tokResolve_ref_depth_lt h
    exact (IH st' (deeper hl hd2 hd1)).interp v
  | _ => exact .bind1 (.helper (rawString_helper _)) fun _ _ _ => .ok _

theorem conv_interp {root : Mapping} {d : Nat}
    (IH : ∀ st', maxDepth + 1 - st'.depth < d → AllConv root st') :
    ∀ (b : Nat) (v : Value), sz v ≤ b → ∀ st, Lvl d st → Conv (fun n => interp n root v st) := by
  intro b
  induction b with
  | zero => intro v hb; have := sz_pos v; omega
  | succ b ih =>
    intro v hb st hl
    cases v with
    | str s =>
      refine .succ ?_
      simp only [interp_strB]
      refine .bind1 (.const (parse_noFuel s)) fun o _ _ => ?_
      cases o with
      | none => exact .ok _
      | some t => exact conv_tokRender IH t st hl
    | map es ck ok =>
      simp only [sz] at hb
      refine .succ ?_
      simp only [interp_mapB]
      exact .bind1 (convEs es (fun k w hw st' hst' => ih w (by have := mem_szEs hw; omega) st'
        (hl.mono (Nat.le_of_eq hst'.symm))) {}) fun _ _ _ => .ok _
    | seq l =>
      simp only [sz] at hb
      refine .succ ?_
      simp only [interp_seqB]
      exact .bind1 (convL l (fun w hw st' hst' => ih w (by have := mem_szL hw; omega) st'
        (hl.mono (Nat.le_of_eq hst'.symm))) 0) fun _ _ _ => .ok _
    | vl l =>
      simp only [sz] at hb
      have hlen := szVl_eq l
      refine .succ ?_
      simp only [interp_vlB]
      exact .bind1 (convVl l (fun w hw => ih w (by have := mem_szL hw; omega) st hl) .null)
        fun r n h => conv_strFree root (sz r) r (Nat.le_refl _)
          ((outAt n).interpVl _ _ _ _ _ h trivial) st
    | _ => exact .succ (.ok _)

section Level
variable {root : Mapping} {d : Nat}

theorem conv_interpStrOrVl (hv : ∀ v st, Lvl d st → Conv (fun n => interp n root v st))
    (v : Value) (st : RState) (hl : Lvl d st) : Conv (fun n => interpStrOrVl n root v st) := by
  cases v with
  | str s => exact .succ (hv (.str s) st hl)
  | vl l =>
    refine .succ ?_
    simp only [interpStrOrVl_vlB]
    exact .bind1 (convLayers l fun w _ => hv w st hl) fun i _ _ =>
      .bind1 (.helper (flatVl_helper _ _ _)) fun _ _ _ => .ok _
  | _ => exact .succ (.ok _)

theorem conv_descend (hv : ∀ v st, Lvl d st → Conv (fun n => interp n root v st)) (p : Str) :
    ∀ (ks : List Str) (v : Value) (st : RState), Lvl d st →
      Conv (fun n => descend n root v ks st p) := by
  intro ks
  induction ks with
  | nil => intro v st _; exact .succ (.ok _)
  | cons key rest ih =>
    intro v st hl
    refine .succ ?_
    simp only [descend_consB]
    refine .bind2 (conv_interpStrOrVl hv v st hl) fun newv st' _ h => ?_
    cases newv with
    | map es ck ok =>
      dsimp only
      cases lookup (.str key) es with
      | none => exact .error nofun
      | some v' => exact ih v' st' (hl.mono (interpStrOrVl_depth_mono h).1)
    | _ => exact .error nofun

theorem allConv_level (IH : ∀ st', maxDepth + 1 - st'.depth < d → AllConv root st')
    (st : RState) (hl : Lvl d st) : AllConv root st := by
  have hv : ∀ v st, Lvl d st → Conv (fun n => interp n root v st) :=
    fun v st hl => conv_interp IH _ v (Nat.le_refl _) st hl
  have hsame : ∀ {st' : RState}, st'.depth = st.depth → Lvl d st' :=
    fun h => hl.mono (Nat.le_of_eq h.symm)
  exact {
    interp := fun v => hv v st hl
    interpL := fun l idx => convL l (fun w _ st' h => hv w st' (hsame h)) idx
    interpEs := fun es ck ok acc => convEs es (fun _ w _ st' h => hv w st' (hsame h)) acc
    interpVl := fun l r => convVl l (fun w _ => hv w st hl) r
    tokRender := fun t => conv_tokRender IH t st hl
    tokResolve := fun t => conv_tokResolve IH _ t (Nat.le_refl _) st hl
    descend := fun v ks p => conv_descend hv p ks v st hl
    finalLoop := fun v => by
      refine .succ ?_
      simp only [finalLoop_succB]
      refine .ite (fun _ => .bind2 (hv v st hl) fun v' st' n h => ?_) fun _ => .ok _
      have h0 := (outAt n).interp _ _ _ _ _ h
      exact ⟨1, .ok (v', st'), nofun, finalLoop_done (strFree_isStr h0.1) h0.2 root st'⟩
    interpStrOrVl := fun v => conv_interpStrOrVl hv v st hl
    layersStr := fun l => convLayers l (fun w _ => hv w st hl)
    slice := fun ts => conv_slice IH st hl ts
      (fun t _ => conv_tokResolve IH _ t (Nat.le_refl _) st hl)
    strLoop := fun v => by
      refine .succ ?_
      simp only [strLoop_succB]
      refine .ite (fun _ => .bind2 (hv v st hl) fun v' st' n h => ?_) fun _ => .ok _
      have h1 := strFree_isStr ((outAt n).interp _ _ _ _ _ h).1
      exact ⟨1, .ok (v', st'), nofun, strLoop_nonstr h1 root st'⟩
    sliceFinish := fun v => by
      refine .succ ?_
      simp only [sliceFinish_succB]
      exact .ite (fun _ => .bind2 (hv v st hl) fun v' st' _ _ =>
          .bind1 (.helper (flat_helper _ _)) fun _ _ _ => .helper (rawString_helper _))
        fun _ => .helper (rawString_helper _) }

end Level

theorem allConv (root : Mapping) : ∀ (d : Nat) (st : RState), Lvl d st → AllConv root st := by
  intro d
  induction d using Nat.strongRecOn with
  | _ d ih =>
    intro st hl
    exact allConv_level (fun st' h' => ih _ h' st' (Nat.le_refl _)) st hl

theorem interp_terminates (root : Mapping) (v : Value) (st : RState) :
    ∃ n, interp n root v st ≠ .error .fuel :=
  ((allConv root _ st (Nat.le_refl _)).interp v).exists_ne

end Termination

end Reclass
