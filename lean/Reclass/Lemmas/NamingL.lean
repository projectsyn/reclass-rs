/-
  The naming functions of `Model/Node` and `Model/Discover`: class-list folds are
  first-occurrence deduplication (`nub`), split and join are inverse on separator-free segments,
  and `deriveEntity`, `walkEntries`, `MetaM.asReclass` have closed normal forms.
-/
import Reclass.Model.Discover
import Reclass.Lemmas.MappingL
import Reclass.Lemmas.Lists
namespace Reclass

/-! ### `splitDots` -/

theorem splitDots_nodot {r : Str} (h : r.head? ≠ some '.') : splitDots r = (0, r) := by
  unfold splitDots
  split
  · simp at h
  · rfl

theorem splitDots_dot (cs : Str) : splitDots ('.' :: cs) = ((splitDots cs).1 + 1, (splitDots cs).2) := by
  rw [splitDots]

theorem splitDots_replicate (k : Nat) {r : Str} (h : r.head? ≠ some '.') :
    splitDots (List.replicate k '.' ++ r) = (k, r) := by
  induction k with
  | zero => simpa using splitDots_nodot h
  | succ k ih =>
    rw [List.replicate_succ, List.cons_append, splitDots_dot, ih]

theorem splitDots_spec (s : Str) :
    s = List.replicate (splitDots s).1 '.' ++ (splitDots s).2 ∧ (splitDots s).2.head? ≠ some '.' := by
  induction s with
  | nil => simp [splitDots]
  | cons c cs ih =>
    by_cases hc : c = '.'
    · subst hc
      rw [splitDots_dot]
      refine ⟨?_, ih.2⟩
      simp only [List.replicate_succ, List.cons_append]
      rw [← ih.1]
    · have : (c :: cs).head? ≠ some '.' := by simpa using hc
      rw [splitDots_nodot this]
      exact ⟨by simp, this⟩

/-! ### `absClassName` -/

theorem absClassName_nodot (loc : Option (List Str)) {cls : Str} (h : cls.head? ≠ some '.') :
    absClassName loc cls = cls := by
  unfold absClassName
  split
  · simp at h
  · rfl

theorem absClassName_dot (loc : Option (List Str)) (cs : Str) :
    absClassName loc ('.' :: cs) =
      (((loc.getD []) ++ [['<']]).take (((loc.getD []) ++ [['<']]).length - (splitDots ('.' :: cs)).1)).flatMap
        (fun seg => seg ++ ['.']) ++ (splitDots ('.' :: cs)).2 := by
  rw [absClassName]

theorem absClassName_none (cls : Str) : absClassName none cls = absClassName (some []) cls := by
  unfold absClassName
  rfl

theorem absClassName_replicate (loc : Option (List Str)) (k : Nat) (hk : 1 ≤ k) {r : Str}
    (h : r.head? ≠ some '.') :
    absClassName loc (List.replicate k '.' ++ r) =
      ((loc.getD []).take ((loc.getD []).length - (k - 1))).flatMap (fun s => s ++ ['.']) ++ r := by
  obtain ⟨k', rfl⟩ : ∃ k', k = k' + 1 := ⟨k - 1, by omega⟩
  have hs := splitDots_replicate (k' + 1) h
  rw [List.replicate_succ, List.cons_append] at hs ⊢
  rw [absClassName_dot, hs]
  simp only [List.length_append, List.length_singleton, Nat.add_sub_cancel]
  have : (loc.getD []).length + 1 - (k' + 1) = (loc.getD []).length - k' := by omega
  rw [this, List.take_append_of_le_length (by omega)]

/-! ### `UList`: folds of `appendIfNew` are first-occurrence deduplication -/

def nub : List Str → List Str → List Str
  | _, [] => []
  | seen, x :: xs => if x ∈ seen then nub seen xs else x :: nub (seen ++ [x]) xs

theorem foldl_appendIfNew_items (f : Str → Str) (xs : List Str) (acc : UList) :
    (xs.foldl (fun a c => a.appendIfNew (f c)) acc).items = acc.items ++ nub acc.items (xs.map f) := by
  induction xs generalizing acc with
  | nil => simp [nub]
  | cons x xs ih =>
    simp only [List.foldl_cons, List.map_cons, nub]
    rw [ih]
    unfold UList.appendIfNew
    by_cases h : f x ∈ acc.items
    · simp [h]
    · simp [h]

theorem ofList_items (xs : List Str) : (UList.ofList xs).items = nub [] xs := by
  have := foldl_appendIfNew_items id xs {}
  simpa [UList.ofList] using this

theorem nub_congr {s s' : List Str} (h : ∀ x, x ∈ s ↔ x ∈ s') (xs : List Str) : nub s xs = nub s' xs := by
  induction xs generalizing s s' with
  | nil => rfl
  | cons x xs ih =>
    simp only [nub]
    by_cases hx : x ∈ s
    · have hx' : x ∈ s' := (h x).1 hx
      simp only [hx, hx', if_true]; exact ih h
    · have hx' : x ∉ s' := fun e => hx ((h x).2 e)
      simp only [hx, hx', if_false]
      congr 1
      apply ih
      intro y; simp [h y]

theorem mem_nub {s xs : List Str} {y : Str} : y ∈ nub s xs ↔ y ∈ xs ∧ y ∉ s := by
  induction xs generalizing s with
  | nil => simp [nub]
  | cons x xs ih =>
    simp only [nub]
    by_cases hx : x ∈ s
    · simp only [hx, if_true, ih, List.mem_cons]
      constructor
      · rintro ⟨h1, h2⟩; exact ⟨Or.inr h1, h2⟩
      · rintro ⟨h1 | h1, h2⟩
        · subst h1; exact absurd hx h2
        · exact ⟨h1, h2⟩
    · simp only [hx, if_false, List.mem_cons, ih, List.mem_append, List.not_mem_nil, or_false, not_or]
      constructor
      · rintro (h1 | ⟨h1, h2, _⟩)
        · subst h1; exact ⟨Or.inl rfl, hx⟩
        · exact ⟨Or.inr h1, h2⟩
      · rintro ⟨h1 | h1, h2⟩
        · exact Or.inl h1
        · by_cases e : y = x
          · exact Or.inl e
          · exact Or.inr ⟨h1, h2, e⟩

theorem nub_nodup (s xs : List Str) : (nub s xs).Nodup := by
  induction xs generalizing s with
  | nil => simp [nub]
  | cons x xs ih =>
    simp only [nub]
    by_cases hx : x ∈ s
    · simp only [hx, if_true]; exact ih s
    · simp only [hx, if_false, List.nodup_cons]
      refine ⟨?_, ih _⟩
      intro hm
      have := (mem_nub.1 hm).2
      simp at this

/-- `T` and `S` are the seen lists of the inner and the outer pass; the induction keeps
`f t ∈ S` for `t ∈ T`, so that whatever the inner pass drops the outer one would drop as well. -/
theorem nub_map_nub (f : Str → Str) (xs : List Str) :
    ∀ (S T : List Str), (∀ t ∈ T, f t ∈ S) → nub S ((nub T xs).map f) = nub S (xs.map f) := by
  induction xs with
  | nil => intro S T _; rfl
  | cons x xs ih =>
    intro S T hST
    by_cases hx : x ∈ T
    · have hfx : f x ∈ S := hST x hx
      simp only [nub, hx, if_true, List.map_cons, hfx]
      exact ih S T hST
    · simp only [nub, hx, if_false, List.map_cons]
      by_cases hfx : f x ∈ S
      · simp only [hfx, if_true]
        apply ih
        intro t ht
        rcases List.mem_append.1 ht with h | h
        · exact hST t h
        · simp at h; subst h; exact hfx
      · simp only [hfx, if_false]
        congr 1
        apply ih
        intro t ht
        rcases List.mem_append.1 ht with h | h
        · exact List.mem_append_left _ (hST t h)
        · simp at h; subst h; simp

theorem nub_nub (xs : List Str) : nub [] (nub [] xs) = nub [] xs := by
  have := nub_map_nub id xs [] [] (by simp)
  simpa using this

theorem ulist_ext {a b : UList} (h : a.items = b.items) : a = b := by
  cases a; cases b; simp only at h; rw [h]

theorem ofSrc_eq (loc : Option (List Str)) (src : ClassSrc) :
    NodeM.ofSrc loc src =
      match Mapping.ofYamlEntries src.params with
      | .error e => .error e
      | .ok p => .ok { apps := RList.ofList src.apps,
                       classes := { items := nub [] ((nub [] src.classes).map (absClassName loc)) },
                       params := p, loc := loc } := by
  have : (UList.ofList src.classes).items.foldl (fun acc c => acc.appendIfNew (absClassName loc c)) ({} : UList)
      = { items := nub [] ((nub [] src.classes).map (absClassName loc)) } :=
    ulist_ext (by rw [foldl_appendIfNew_items, ofList_items]; rfl)
  unfold NodeM.ofSrc
  dsimp only
  rw [this]
  rfl

theorem ofSrc_classes_items {loc : Option (List Str)} {src : ClassSrc} {n : NodeM}
    (h : NodeM.ofSrc loc src = .ok n) :
    n.classes.items = nub [] ((nub [] src.classes).map (absClassName loc)) := by
  rw [ofSrc_eq] at h
  split at h
  · cases h
  · cases h; rfl

theorem nub_twin (f : Str → Str) (cs : List Str) (hidem : ∀ c ∈ cs, f (f c) = f c) :
    nub [] ((nub [] (cs.map f)).map f) = nub [] ((nub [] cs).map f) := by
  have h1 : (nub [] (cs.map f)).map f = nub [] (cs.map f) := by
    have : ∀ y ∈ nub [] (cs.map f), f y = id y := by
      intro y hy
      obtain ⟨c, hc, rfl⟩ := List.mem_map.1 (mem_nub.1 hy).1
      exact hidem c hc
    rw [List.map_congr_left this, List.map_id]
  rw [h1, nub_nub]
  exact (nub_map_nub f cs [] [] (by simp)).symm

theorem flatMap_dot_append (segs : List Str) (r : Str) :
    (segs.flatMap fun s => s ++ ['.']) ++ r = joinWith ['.'] (segs ++ [r]) := by
  induction segs with
  | nil => rfl
  | cons x xs ih =>
    rw [List.flatMap_cons, List.append_assoc, ih]
    cases xs with
    | nil => rfl
    | cons y ys => rfl

/-! ### `splitOn` and `joinWith` -/

theorem splitOn_ne_nil (sep : Char) (s : Str) : splitOn sep s ≠ [] := by
  induction s with
  | nil => simp [splitOn]
  | cons c cs ih =>
    rw [splitOn]
    split
    · simp
    · split <;> simp

theorem splitOn_cons_sep (sep : Char) (cs : Str) : splitOn sep (sep :: cs) = [] :: splitOn sep cs := by
  rw [splitOn]
  split
  · rename_i h; exact absurd h (splitOn_ne_nil sep cs)
  · rename_i seg segs h; simp [h]

theorem splitOn_cons_ne {sep c : Char} (hc : c ≠ sep) (cs : Str) :
    splitOn sep (c :: cs) = (c :: (splitOn sep cs).head (splitOn_ne_nil sep cs)) :: (splitOn sep cs).tail := by
  rw [splitOn]
  split
  · rename_i h; exact absurd h (splitOn_ne_nil sep cs)
  · rename_i seg segs h; simp [h, hc]

theorem splitOn_nosep {sep : Char} {x : Str} (h : ∀ c ∈ x, c ≠ sep) : splitOn sep x = [x] := by
  induction x with
  | nil => rfl
  | cons c x ih =>
    have hx : splitOn sep x = [x] := ih (fun d hd => h d (List.mem_cons_of_mem _ hd))
    rw [splitOn_cons_ne (h c List.mem_cons_self)]
    simp [hx]

theorem splitOn_append_sep {sep : Char} {x : Str} (h : ∀ c ∈ x, c ≠ sep) (rest : Str) :
    splitOn sep (x ++ sep :: rest) = x :: splitOn sep rest := by
  induction x with
  | nil => exact splitOn_cons_sep sep rest
  | cons c x ih =>
    have hx := ih (fun d hd => h d (List.mem_cons_of_mem _ hd))
    rw [List.cons_append, splitOn_cons_ne (h c List.mem_cons_self)]
    simp [hx]

theorem joinWith_nil (sep : Str) : joinWith sep [] = [] := rfl
theorem joinWith_single (sep x : Str) : joinWith sep [x] = x := rfl
theorem joinWith_cons_cons (sep x y : Str) (ys : List Str) :
    joinWith sep (x :: y :: ys) = x ++ sep ++ joinWith sep (y :: ys) := rfl

theorem splitOn_joinWith {sep : Char} {segs : List Str} (hne : segs ≠ [])
    (h : ∀ s ∈ segs, ∀ c ∈ s, c ≠ sep) : splitOn sep (joinWith [sep] segs) = segs := by
  induction segs with
  | nil => exact absurd rfl hne
  | cons x xs ih =>
    cases xs with
    | nil => exact splitOn_nosep (h x List.mem_cons_self)
    | cons y ys =>
      rw [joinWith_cons_cons, List.append_assoc, List.singleton_append,
        splitOn_append_sep (h x List.mem_cons_self),
        ih (by simp) (fun s hs => h s (List.mem_cons_of_mem _ hs))]

theorem splitOn_joinWith_getLast {sep : Char} {segs : List Str}
    (h : ∀ s ∈ segs, ∀ c ∈ s, c ≠ sep) :
    (splitOn sep (joinWith [sep] segs)).getLast?.getD [] = segs.getLast?.getD [] := by
  cases segs with
  | nil => rfl
  | cons x xs => rw [splitOn_joinWith (by simp) h]

theorem joinWith_map (g : Char → Char) (sep : Str) (segs : List Str) :
    (joinWith sep segs).map g = joinWith (sep.map g) (segs.map (List.map g)) := by
  induction segs with
  | nil => rfl
  | cons x xs ih =>
    cases xs with
    | nil => rfl
    | cons y ys =>
      rw [joinWith_cons_cons, List.map_append, List.map_append, ih]
      rfl

theorem joinWith_slash_to_dot {segs : List Str} (h : ∀ s ∈ segs, ∀ c ∈ s, c ≠ '/') :
    (joinWith ['/'] segs).map (fun c => if c = '/' then '.' else c) = joinWith ['.'] segs := by
  -- the map is the identity on every segment
  rw [joinWith_map, List.map_congr_left (g := id) fun s hs =>
    (List.map_congr_left fun c hc => if_neg (h s hs c hc)).trans (List.map_id' s), List.map_id]
  rfl

theorem joinWith_head_underscore (segs : List Str) :
    ((joinWith ['/'] segs).head? = some '_') ↔ (segs.head?.bind List.head? = some '_') := by
  cases segs with
  | nil => simp [joinWith]
  | cons x xs =>
    cases xs with
    | nil => simp [joinWith]
    | cons y ys =>
      rw [joinWith_cons_cons]
      cases x with
      | nil => simp
      | cons c cs => simp

/-! ### `splitLastDot`, `fileExtension`, `fileStem` -/

theorem span_loop_eq {α} (p : α → Bool) (as acc : List α) :
    List.span.loop p as acc = (acc.reverse ++ as.takeWhile p, as.dropWhile p) := by
  induction as generalizing acc with
  | nil => simp [List.span.loop]
  | cons a as ih =>
    rw [List.span.loop]
    cases hp : p a with
    | true => simp [ih, hp]
    | false => simp [hp]

theorem span_eq {α} (p : α → Bool) (as : List α) : as.span p = (as.takeWhile p, as.dropWhile p) := by
  rw [List.span, span_loop_eq]; simp

theorem mem_takeWhile_pos {α} {p : α → Bool} {l : List α} {x : α} (h : x ∈ l.takeWhile p) : p x = true := by
  have := List.all_takeWhile (p := p) (l := l)
  exact List.all_eq_true.1 this x h

theorem dropWhile_nil_pos {α} {p : α → Bool} {l : List α} (h : l.dropWhile p = []) :
    ∀ x ∈ l, p x = true := by
  induction l with
  | nil => simp
  | cons a as ih =>
    cases hp : p a with
    | true =>
      rw [List.dropWhile_cons_of_pos hp] at h
      intro x hx
      rcases List.mem_cons.1 hx with rfl | hx
      · exact hp
      · exact ih h x hx
    | false =>
      rw [List.dropWhile_cons_of_neg (by simp [hp])] at h
      cases h

theorem splitLastDot_append {stem ext : Str} (hext : ∀ c ∈ ext, c ≠ '.') :
    splitLastDot (stem ++ '.' :: ext) = some (stem, ext) := by
  have hrev : (stem ++ '.' :: ext).reverse = ext.reverse ++ '.' :: stem.reverse := by simp
  have hall : ∀ a ∈ ext.reverse, (a != '.') = true := by
    intro a ha; simpa using hext a (List.mem_reverse.1 ha)
  have htw : ((stem ++ '.' :: ext).reverse).takeWhile (· != '.') = ext.reverse := by
    rw [hrev, List.takeWhile_append_of_pos hall, List.takeWhile_cons_of_neg (by simp)]; simp
  have hdw : ((stem ++ '.' :: ext).reverse).dropWhile (· != '.') = '.' :: stem.reverse := by
    rw [hrev, List.dropWhile_append_of_pos hall, List.dropWhile_cons_of_neg (by simp)]
  unfold splitLastDot
  simp only [span_eq, htw, hdw, List.reverse_reverse]

theorem splitLastDot_some {name before after : Str} (h : splitLastDot name = some (before, after)) :
    name = before ++ '.' :: after ∧ ∀ c ∈ after, c ≠ '.' := by
  unfold splitLastDot at h
  simp only [span_eq] at h
  have hcat := List.takeWhile_append_dropWhile (p := (· != '.')) (l := name.reverse)
  split at h
  · cases h
  · rename_i afterRev x beforeRev heq
    injection h with h
    injection h with hb ha
    injection heq with h1 h2
    have hx : x = '.' := by
      have := List.head_dropWhile_not (· != '.') (l := name.reverse) (by rw [h2]; simp)
      simp only [h2, List.head_cons] at this
      simpa using this
    subst hx
    constructor
    · have : name.reverse = afterRev ++ '.' :: beforeRev := by rw [← hcat, h1, h2]
      have h3 := congrArg List.reverse this
      simp only [List.reverse_reverse, List.reverse_append, List.reverse_cons, List.append_assoc,
        List.singleton_append] at h3
      rw [h3, ← hb, ← ha]
    · intro c hc
      rw [← ha] at hc
      have hc' : c ∈ List.takeWhile (· != '.') name.reverse := by rw [h1]; exact List.mem_reverse.1 hc
      have := mem_takeWhile_pos hc'
      simpa using this

theorem splitLastDot_none {name : Str} (h : splitLastDot name = none) : ∀ c ∈ name, c ≠ '.' := by
  unfold splitLastDot at h
  simp only [span_eq] at h
  split at h
  · rename_i a heq
    injection heq with h1 h2
    intro c hc
    have hall : ∀ x ∈ name.reverse, (x != '.') = true := by
      exact dropWhile_nil_pos h2
    simpa using hall c (List.mem_reverse.2 hc)
  · cases h

theorem fileExtension_append {stem ext : Str} (hstem : stem ≠ []) (hext : ∀ c ∈ ext, c ≠ '.')
    (hdd : stem ++ '.' :: ext ≠ ['.', '.']) : fileExtension (stem ++ '.' :: ext) = some ext := by
  unfold fileExtension
  rw [if_neg hdd, splitLastDot_append hext]
  cases stem with
  | nil => exact absurd rfl hstem
  | cons c cs => rfl

theorem fileStem_append {stem ext : Str} (hstem : stem ≠ []) (hext : ∀ c ∈ ext, c ≠ '.')
    (hdd : stem ++ '.' :: ext ≠ ['.', '.']) : fileStem (stem ++ '.' :: ext) = stem := by
  unfold fileStem
  rw [if_neg hdd, splitLastDot_append hext]
  cases stem with
  | nil => exact absurd rfl hstem
  | cons c cs => rfl

theorem ne_dotdot_of_stem {stem ext : Str} (hstem : stem ≠ []) (hdot : stem ≠ ['.']) :
    stem ++ '.' :: ext ≠ ['.', '.'] := by
  intro h
  cases stem with
  | nil => exact hstem rfl
  | cons c cs =>
    cases cs with
    | nil => simp at h; exact hdot (by rw [h.1])
    | cons d ds =>
      have := congrArg List.length h
      simp at this

theorem stemNoExt_append {stem ext : Str} (hstem : stem ≠ []) (hdot : stem ≠ ['.'])
    (hext : ∀ c ∈ ext, c ≠ '.') : stemNoExt (stem ++ '.' :: ext) = stem := by
  unfold stemNoExt
  rw [fileStem_append hstem hext (ne_dotdot_of_stem hstem hdot), if_neg hdot]

theorem fileExtension_some {name ext : Str} (h : fileExtension name = some ext) :
    name = fileStem name ++ '.' :: ext ∧ fileStem name ≠ [] ∧ (∀ c ∈ ext, c ≠ '.') ∧ name ≠ ['.', '.'] := by
  unfold fileExtension at h
  by_cases hdd : name = ['.', '.']
  · simp [hdd] at h
  · rw [if_neg hdd] at h
    cases hs : splitLastDot name with
    | none => simp [hs] at h
    | some ba =>
      obtain ⟨b, a⟩ := ba
      simp only [hs] at h
      cases b with
      | nil => simp at h
      | cons c cs =>
        simp only [List.isEmpty_cons, Bool.false_eq_true, if_false, Option.some.injEq] at h
        subst h
        obtain ⟨h1, h2⟩ := splitLastDot_some hs
        have hst : fileStem name = c :: cs := by
          unfold fileStem; rw [if_neg hdd, hs]; rfl
        rw [hst]
        exact ⟨h1, by simp, h2, hdd⟩

/-! ### `deriveEntity` -/

theorem isYamlExt_iff (e : Str) : isYamlExt e = true ↔ e = "yml".toList ∨ e = "yaml".toList := by
  unfold isYamlExt Extracted.yamlExts
  simp only [List.any_cons, List.any_nil, Bool.or_false, Bool.or_eq_true, beq_iff_eq]
  constructor
  · rintro (h | h) <;> simp [← h]
  · rintro (h | h) <;> simp [h]

/-- The path segments that name an entity: the `init` rule drops the file name. -/
def entitySegs (dirs : List Str) (stem : Str) : List Str :=
  if stem = Extracted.initName.toList then dirs else dirs ++ [stem]

/-- The directory against which the relative includes of a class are resolved. -/
def entityLoc (dirs : List Str) (stem : Str) : List Str :=
  if stem = Extracted.initName.toList then dropLast dirs else dirs

theorem deriveEntity_nil {isNode compose : Bool} {e : DirEntry} (h : e.rel = []) :
    deriveEntity isNode compose e = none := by
  simp [deriveEntity, h]

theorem deriveEntity_noext {isNode compose : Bool} {e : DirEntry} {dirs : List Str} {fname : Str}
    (hrel : e.rel = dirs ++ [fname]) (h : fileExtension fname = none) :
    deriveEntity isNode compose e = none := by
  simp [deriveEntity, hrel, h]

theorem deriveEntity_notyaml {isNode compose : Bool} {e : DirEntry} {dirs : List Str} {fname ext : Str}
    (hrel : e.rel = dirs ++ [fname]) (h : fileExtension fname = some ext)
    (hn : isYamlExt ext = false ∨ e.isFile = false) :
    deriveEntity isNode compose e = none := by
  rcases hn with hn | hn <;> simp [deriveEntity, hrel, h, hn]

theorem deriveEntity_path {isNode compose : Bool} {e : DirEntry} {name : Str} {info : EntityInfo}
    (h : deriveEntity isNode compose e = some (name, info)) : info.path = e.rel := by
  unfold deriveEntity at h
  split at h
  · cases h
  · split at h
    · cases h
    · split at h
      · cases h
      · simp only [Option.some.injEq, Prod.mk.injEq] at h
        rw [← h.2]

theorem deriveEntity_some_yaml {isNode compose : Bool} {e : DirEntry} {r : Str × EntityInfo}
    (h : deriveEntity isNode compose e = some r) :
    e.isFile = true ∧ ∃ dirs fname ext, e.rel = dirs ++ [fname] ∧ fileExtension fname = some ext ∧
      isYamlExt ext = true := by
  unfold deriveEntity at h
  split at h
  · cases h
  · rename_i fname revDirs hrev
    split at h
    · cases h
    · rename_i ext hext
      split at h
      · cases h
      · rename_i hc
        simp only [Bool.not_eq_true', Bool.not_eq_false, Bool.and_eq_true] at hc
        refine ⟨hc.2, revDirs.reverse, fname, ext, ?_, hext, hc.1⟩
        have := congrArg List.reverse hrev
        simpa using this

theorem deriveEntity_yaml {isNode compose : Bool} {e : DirEntry} {dirs : List Str} {fname ext : Str}
    (hrel : e.rel = dirs ++ [fname]) (hext : fileExtension fname = some ext)
    (hy : isYamlExt ext = true) (hf : e.isFile = true)
    (hslash : ∀ s ∈ entitySegs dirs (stemNoExt fname), ∀ c ∈ s, c ≠ '/') :
    deriveEntity isNode compose e = some (
      if isNode && ((entitySegs dirs (stemNoExt fname)).head?.bind List.head? = some '_' || !compose) then
        ((entitySegs dirs (stemNoExt fname)).getLast?.getD [], { path := e.rel, loc := [] })
      else
        (joinWith ['.'] (entitySegs dirs (stemNoExt fname)),
          { path := e.rel, loc := entityLoc dirs (stemNoExt fname) })) := by
  have hfst : (if stemNoExt fname = Extracted.initName.toList then (dirs, dropLast dirs)
      else (dirs ++ [stemNoExt fname], dirs)).fst = entitySegs dirs (stemNoExt fname) := by
    unfold entitySegs; split <;> rfl
  have hsnd : (if stemNoExt fname = Extracted.initName.toList then (dirs, dropLast dirs)
      else (dirs ++ [stemNoExt fname], dirs)).snd = entityLoc dirs (stemNoExt fname) := by
    unfold entityLoc; split <;> rfl
  have hcond : (decide ((joinWith ['/'] (entitySegs dirs (stemNoExt fname))).head? = some '_')) =
      decide ((entitySegs dirs (stemNoExt fname)).head?.bind List.head? = some '_') := by
    simp only [joinWith_head_underscore]
  unfold deriveEntity
  simp only [hrel, List.reverse_append, List.reverse_cons, List.reverse_nil, List.nil_append,
    List.singleton_append, hext, hy, hf, Bool.and_self, Bool.not_true, Bool.false_eq_true, if_false,
    List.reverse_reverse, hfst, hsnd, hcond]
  generalize entitySegs dirs (stemNoExt fname) = segs at hslash ⊢
  by_cases hc : (isNode && (decide (segs.head?.bind List.head? = some '_') || !compose)) = true
  · simp only [hc, if_true, splitOn_joinWith_getLast hslash]
    congr 2
    cases hl : segs.getLast? with
    | none => rfl
    | some l =>
      have hmem : l ∈ segs := List.mem_of_getLast? hl
      have := joinWith_slash_to_dot (segs := [l]) (by
        intro s hs'; simp at hs'; subst hs'; exact hslash _ hmem)
      simpa [joinWith] using this
  · simp only [hc, Bool.false_eq_true, if_false, joinWith_slash_to_dot hslash]

/-! ### `walkEntries` -/

theorem find?_name_none {acc : List (Str × EntityInfo)} {name : Str} :
    acc.find? (fun p => p.1 == name) = none ↔ name ∉ acc.map Prod.fst := by
  rw [List.find?_eq_none, List.mem_map]
  exact ⟨fun h ⟨p, hp, e⟩ => h p hp (by simpa using e), fun h p hp e => h ⟨p, hp, by simpa using e⟩⟩

theorem find?_name_some {acc : List (Str × EntityInfo)} {name : Str} {r : Str × EntityInfo}
    (h : acc.find? (fun p => p.1 == name) = some r) : r.1 = name ∧ r ∈ acc := by
  have h1 := List.find?_some h
  have h2 := List.mem_of_find?_eq_some h
  exact ⟨by simpa using h1, h2⟩

theorem walkEntries_nil (isNode compose : Bool) (root : Str) (acc : List (Str × EntityInfo)) :
    walkEntries isNode compose root [] acc = .ok acc := rfl

theorem walkEntries_cons_none {isNode compose : Bool} (root : Str) {e : DirEntry} (rest : List DirEntry)
    (acc : List (Str × EntityInfo)) (h : deriveEntity isNode compose e = none) :
    walkEntries isNode compose root (e :: rest) acc = walkEntries isNode compose root rest acc := by
  rw [walkEntries, h]

theorem walkEntries_cons_new {isNode compose : Bool} (root : Str) {e : DirEntry} (rest : List DirEntry)
    {acc : List (Str × EntityInfo)} {name : Str} {info : EntityInfo}
    (h : deriveEntity isNode compose e = some (name, info)) (hn : name ∉ acc.map Prod.fst) :
    walkEntries isNode compose root (e :: rest) acc =
      walkEntries isNode compose root rest (acc ++ [(name, info)]) := by
  rw [walkEntries, h]
  simp only [find?_name_none.2 hn]

theorem walkEntries_cons_dup {isNode compose : Bool} (root : Str) {e : DirEntry} (rest : List DirEntry)
    {acc : List (Str × EntityInfo)} {name : Str} {info : EntityInfo} {prev : Str × EntityInfo}
    (h : deriveEntity isNode compose e = some (name, info))
    (hf : acc.find? (fun p => p.1 == name) = some prev) :
    walkEntries isNode compose root (e :: rest) acc =
      .error (if strLt (pathText root prev.2.path) (pathText root info.path) then
        .collision name (pathText root prev.2.path) (pathText root info.path)
      else .collision name (pathText root info.path) (pathText root prev.2.path)) := by
  rw [walkEntries, h]
  simp only [hf]
  split <;> rfl

theorem walkEntries_ok_of_nodup (isNode compose : Bool) (root : Str) (entries : List DirEntry) :
    ∀ acc : List (Str × EntityInfo),
      (acc.map Prod.fst ++ (entries.filterMap (deriveEntity isNode compose)).map Prod.fst).Nodup →
      walkEntries isNode compose root entries acc =
        .ok (acc ++ entries.filterMap (deriveEntity isNode compose)) := by
  induction entries with
  | nil => intro acc _; simp [walkEntries]
  | cons e rest ih =>
    intro acc hn
    cases hd : deriveEntity isNode compose e with
    | none =>
      rw [walkEntries_cons_none root rest acc hd, List.filterMap_cons_none hd]
      rw [List.filterMap_cons_none hd] at hn
      exact ih acc hn
    | some r =>
      obtain ⟨name, info⟩ := r
      rw [List.filterMap_cons_some hd] at hn ⊢
      have hnew : name ∉ acc.map Prod.fst := by
        intro hm
        have := (List.nodup_append.1 hn).2.2 name hm name (by simp)
        exact this rfl
      rw [walkEntries_cons_new root rest hd hnew, ih]
      · simp
      · simpa using hn

theorem walkEntries_ok_inv (isNode compose : Bool) (root : Str) (entries : List DirEntry) :
    ∀ (acc l : List (Str × EntityInfo)), walkEntries isNode compose root entries acc = .ok l →
      l = acc ++ entries.filterMap (deriveEntity isNode compose) ∧
      ((acc.map Prod.fst).Nodup → (l.map Prod.fst).Nodup) := by
  induction entries with
  | nil =>
    intro acc l h
    simp only [walkEntries] at h
    injection h with h; subst h
    simp
  | cons e rest ih =>
    intro acc l h
    cases hd : deriveEntity isNode compose e with
    | none =>
      rw [walkEntries_cons_none root rest acc hd] at h
      rw [List.filterMap_cons_none hd]
      exact ih acc l h
    | some r =>
      obtain ⟨name, info⟩ := r
      cases hf : acc.find? (fun p => p.1 == name) with
      | some prev =>
        rw [walkEntries_cons_dup root rest hd hf] at h
        cases h
      | none =>
        have hnew := find?_name_none.1 hf
        rw [walkEntries_cons_new root rest hd hnew] at h
        obtain ⟨h1, h2⟩ := ih _ l h
        rw [List.filterMap_cons_some hd]
        refine ⟨by rw [h1]; simp, fun hacc => h2 ?_⟩
        rw [List.map_append]
        exact nodup_append_singleton hacc hnew

theorem walkEntries_error_inv (isNode compose : Bool) (root : Str) (entries : List DirEntry) :
    ∀ (acc : List (Str × EntityInfo)) (err : Err), walkEntries isNode compose root entries acc = .error err →
      ∃ pre e post name info prev, entries = pre ++ e :: post ∧
        deriveEntity isNode compose e = some (name, info) ∧
        (acc ++ pre.filterMap (deriveEntity isNode compose)).find? (fun p => p.1 == name) = some prev ∧
        ((acc.map Prod.fst).Nodup →
          (acc.map Prod.fst ++ (pre.filterMap (deriveEntity isNode compose)).map Prod.fst).Nodup) ∧
        err = if strLt (pathText root prev.2.path) (pathText root info.path) then
            .collision name (pathText root prev.2.path) (pathText root info.path)
          else .collision name (pathText root info.path) (pathText root prev.2.path) := by
  induction entries with
  | nil => intro acc err h; simp [walkEntries] at h
  | cons e rest ih =>
    intro acc err h
    cases hd : deriveEntity isNode compose e with
    | none =>
      rw [walkEntries_cons_none root rest acc hd] at h
      obtain ⟨pre, e', post, name, info, prev, h1, h2, h3, h4, h5⟩ := ih acc err h
      refine ⟨e :: pre, e', post, name, info, prev, by rw [h1]; rfl, h2, ?_, ?_, h5⟩
      · rw [List.filterMap_cons_none hd]; exact h3
      · rw [List.filterMap_cons_none hd]; exact h4
    | some r =>
      obtain ⟨name, info⟩ := r
      cases hf : acc.find? (fun p => p.1 == name) with
      | some prev =>
        rw [walkEntries_cons_dup root rest hd hf] at h
        exact ⟨[], e, rest, name, info, prev, rfl, hd, by simpa using hf, by simp, (Except.error.inj h).symm⟩
      | none =>
        have hnew := find?_name_none.1 hf
        rw [walkEntries_cons_new root rest hd hnew] at h
        obtain ⟨pre, e', post, name', info', prev, h1, h2, h3, h4, h5⟩ := ih _ err h
        refine ⟨e :: pre, e', post, name', info', prev, by rw [h1]; rfl, h2, ?_, ?_, h5⟩
        · rw [List.filterMap_cons_some hd, List.append_cons]; exact h3
        · rw [List.filterMap_cons_some hd, List.map_cons, List.append_cons]
          intro hacc
          have := h4 (by rw [List.map_append]; exact nodup_append_singleton hacc hnew)
          rwa [List.map_append] at this

/-! ### `MetaM.asReclass` -/

/-- The `name` sub-mapping built by `as_reclass`: four plain keys in insertion order. -/
def nameData (full : Str) (parts : List Str) (short : Str) : Mapping :=
  { es := [(.str "full".toList, .str full), (.str "parts".toList, .seq (parts.map Value.str)),
           (.str "path".toList, .str (joinWith ['/'] parts)), (.str "short".toList, .str short)],
    ck := [], ok := [] }

/-- The `parts` that `as_reclass` reports. -/
def expectedParts (m : MetaM) (cfg : NodeCfg) : List Str :=
  if cfg.composeNodeName && cfg.literalDots then splitOn '.' m.name
  else if m.parts.head?.bind List.head? = some '_' then [m.parts.getLast?.getD []]
  else m.parts

theorem expectedParts_ne_nil {m : MetaM} (cfg : NodeCfg) (h : m.parts ≠ []) : expectedParts m cfg ≠ [] := by
  unfold expectedParts
  split
  · exact splitOn_ne_nil _ _
  · split
    · simp
    · exact h

theorem asReclass_eq {m : MetaM} (cfg : NodeCfg) (h : m.parts ≠ []) :
    m.asReclass cfg = .ok
      { es := [(.str "environment".toList, .str m.environment),
               (.str "name".toList,
                 (nameData m.name (expectedParts m cfg) ((expectedParts m cfg).getLast?.getD [])).toValue)],
        ck := [], ok := [] } := by
  have hne := expectedParts_ne_nil cfg h
  unfold MetaM.asReclass
  cases hp : m.parts with
  | nil => exact absurd hp h
  | cons p0 rest =>
    have hparts : (if (cfg.composeNodeName && cfg.literalDots) = true then splitOn '.' m.name
        else if p0.head? = some '_' then [(p0 :: rest).getLast?.getD []] else p0 :: rest) =
        expectedParts m cfg := by
      unfold expectedParts; rw [hp]; rfl
    simp only [hparts]
    cases hl : (expectedParts m cfg).getLast? with
    | none => exact absurd (List.getLast?_eq_none_iff.1 hl) hne
    | some short =>
      simp only [Option.getD_some]
      rfl

end Reclass
