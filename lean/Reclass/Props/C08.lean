/-
  C08 — Reference loops are reported, never followed without bound; acyclic references
  (repeated use, diamonds, chains up to the documented depth limit 64) are never rejected
  as loops.

  About `interp` (`Value::interpolate`), `tokResolve` (`Token::resolve`), the loops that copy
  `ResolveState` (`interpL`/`interpEs`/`interpVl`/`layersStr`/`slice`) and
  `renderedF`/`renderParamsF`.
  Whole-value reference strings are characterised by a parse hypothesis
  (`Token.parse s = .ok (some (.ref [.lit a]))`), discharged for concrete names by kernel
  evaluation in the examples.
-/
import Reclass.Lemmas.Fuel
import Reclass.Lemmas.MappingL
import Reclass.Props.C06
import Reclass.Lemmas.DecEq
namespace Reclass
namespace C08

/-! ### The documented limit -/

/-- The depth limit of the model is the constant extracted from the Rust source
(`RESOLVE_MAX_DEPTH`), and that constant is 64. -/
theorem maxDepth_is_64 : maxDepth = 64 := rfl

/-! ### Fuel never changes an answer; state only grows -/

/-- **Fuel independence.** The fuel argument of the model only ever produces the distinguished
`Err.fuel` outcome: any other outcome of `Value::interpolate` at fuel `n` is the outcome at
every larger fuel. -/
theorem fuel_mono {n m : Nat} (hle : n ≤ m) (root : Mapping) (v : Value) (st : RState)
    {r : R (Value × RState)} (h : interp n root v st = r) (hr : r ≠ .error .fuel) :
    interp m root v st = r :=
  interp_fuel_mono_le hle root v st h hr

/-- Fuel independence for the top-level entry point `render_parameters`. -/
theorem renderParams_fuel_mono {n m : Nat} (hle : n ≤ m) (mp : Mapping) {r : R Mapping}
    (h : renderParamsF n mp = r) (hr : r ≠ .error .fuel) : renderParamsF m mp = r :=
  renderParamsF_fuel_mono_le hle mp h hr

/-- **The state only grows along a resolution chain**: the state handed back by
`Value::interpolate` is at least as deep, and has seen at least the same paths, as the one
handed in. -/
theorem depth_seen_mono {n : Nat} {root : Mapping} {v : Value} {st : RState} {x : Value}
    {st' : RState} (h : interp n root v st = .ok (x, st')) :
    st.depth ≤ st'.depth ∧ st.seen ⊆ st'.seen :=
  ⟨(depth_mono h).1, (depth_mono h).2.1⟩

/-- Every successful `Ref` resolution hands on a strictly deeper state, and only happens below
the limit. -/
theorem ref_resolution_deepens {n : Nat} {root : Mapping} {parts : List Token} {st : RState}
    {x : Value} {st' : RState} (h : tokResolve n root (.ref parts) st = .ok (x, st')) :
    st.depth < st'.depth ∧ st.depth < maxDepth :=
  tokResolve_ref_depth_lt h

/-! ### The mechanism -/

/-- **A path already on the current chain is a loop.** When the reference's path text renders
to a path that is in `seen`, `Token::resolve` reports a reference loop (provided the depth
limit was not hit first). -/
theorem seen_blocks (n : Nat) (root : Mapping) (parts : List Token) (st : RState) (path : Str)
    (hd : st.depth + 1 ≤ maxDepth)
    (hs : slice n root parts { st with depth := st.depth + 1 } = .ok path)
    (hm : path ∈ st.seen) :
    tokResolve (n+1) root (.ref parts) st = .error .loop := by
  rw [tokResolve_ref]
  have hd' : ¬ (st.depth + 1 > maxDepth) := by omega
  simp only [hd', if_false, hs, hm, if_true]

/-- **The depth limit stops everything.** At depth `maxDepth` (= 64) no further reference is
resolved: `Token::resolve` reports the depth error for the current parameter. -/
theorem depth_blocks (n : Nat) (root : Mapping) (parts : List Token) (st : RState)
    (hd : st.depth ≥ maxDepth) :
    tokResolve (n+1) root (.ref parts) st = .error (.depth st.curKey) := by
  rw [tokResolve_ref]
  have hd' : st.depth + 1 > maxDepth := by omega
  simp only [hd', if_true]
  rfl

/-- A `Ref` is never resolved at depth `maxDepth` or more, whatever the fuel. -/
theorem depth_bounded (n : Nat) (root : Mapping) (parts : List Token) (st : RState)
    (hd : st.depth ≥ maxDepth) (x : Value) (st' : RState) :
    tokResolve n root (.ref parts) st ≠ .ok (x, st') :=
  fun h => absurd (tokResolve_ref_depth_lt h).2 (by omega)

/-! ### Cycles of whole-value references -/

/-- Core of the cycle theorems, generalised for the induction: the link `p (r+1)` is already in
`seen` or repeats an earlier link of the chain.  The induction moves along the chain by shifting
`p` and `s`. -/
theorem chain_hits_seen (root : Mapping) : ∀ (r : Nat) (p s : Nat → Str),
    (∀ i, root.get (.str (p i)) = some (.str (s i))) →
    (∀ i, Token.parse (s i) = .ok (some (.ref [.lit (p (i+1))]))) →
    (∀ i, ':' ∉ p i) →
    ∀ st : RState, (p (r+1) ∈ st.seen ∨ ∃ i, i < r ∧ p (i+1) = p (r+1)) →
      st.depth + r + 1 ≤ maxDepth →
      interp (4*r+6) root (.str (s 0)) st = .error .loop := by
  intro r
  induction r with
  | zero =>
    intro p s hget hparse hcolon st hm hd
    have hd' : ¬ (st.depth + 1 > maxDepth) := by omega
    have hm : p 1 ∈ st.seen := by
      rcases hm with hm | ⟨i, hi, _⟩
      · exact hm
      · exact absurd hi (Nat.not_lt_zero i)
    rw [interp_wholeRef 0 root (s 0) (p 1) st _ (hparse 0) (hcolon _) (hget _), if_neg hd', if_pos hm]
  | succ r ih =>
    intro p s hget hparse hcolon st hm hd
    have hd' : ¬ (st.depth + 1 > maxDepth) := by omega
    -- fuel: `interp_wholeRef` at `4r+4` hands the target to `finalLoop (4r+7)`, whose first call is
    -- `interp (4r+6)` on the next link; so four per link, on top of the 6 of `interp_wholeRef 0`
    rw [show 4 * (r + 1) + 6 = (4 * r + 4) + 6 by omega,
      interp_wholeRef (4*r+4) root (s 0) (p 1) st _ (hparse 0) (hcolon _) (hget _), if_neg hd']
    by_cases hs : p 1 ∈ st.seen
    · rw [if_pos hs]
    · have hm' : p (r+1+1) ∈ p 1 :: st.seen ∨ ∃ i, i < r ∧ p (i+1+1) = p (r+1+1) := by
        rcases hm with hm | ⟨i, hi, he⟩
        · exact .inl (List.mem_cons_of_mem _ hm)
        · cases i with
          | zero => rw [← he]; exact .inl List.mem_cons_self
          | succ i => exact .inr ⟨i, Nat.lt_of_succ_lt_succ hi, he⟩
      rw [if_neg hs, show 4 * r + 4 + 3 = (4 * r + 6) + 1 by omega, finalLoop_strB,
        ih (fun i => p (i+1)) (fun i => s (i+1)) (fun _ => hget _) (fun _ => hparse _)
          (fun _ => hcolon _) { st with depth := st.depth + 1, seen := p 1 :: st.seen } hm'
          (by simp only; omega)]
      rfl

/-- **Every cycle of whole-value references is reported as a loop.**  Names `p 0, p 1, …` with
`root[p i] = "${p (i+1)}"` and period `k ≥ 1` (`p (i+k) = p i`; the names need not be distinct).
Rendering the value of `p 0` from any state that leaves room for `k+1` resolutions below the
limit of 64 — in particular from the initial state for every `k ≤ 63` — gives `Err.loop`, for
every fuel `n ≥ 4k+6`.  Nothing is assumed about the rest of `root` or about `seen`. -/
theorem cycle_is_loop (root : Mapping) (p s : Nat → Str) (k : Nat) (hk : 1 ≤ k)
    (hper : ∀ i, p (i + k) = p i)
    (hget : ∀ i, root.get (.str (p i)) = some (.str (s i)))
    (hparse : ∀ i, Token.parse (s i) = .ok (some (.ref [.lit (p (i+1))])))
    (hcolon : ∀ i, ':' ∉ p i)
    (st : RState) (hd : st.depth + k + 1 ≤ maxDepth) (n : Nat) (hn : 4 * k + 6 ≤ n) :
    interp n root (.str (s 0)) st = .error .loop :=
  interp_fuel_mono_le hn root _ st
    (chain_hits_seen root k p s hget hparse hcolon st
      (.inr ⟨0, hk, by rw [Nat.add_comm k 1]; exact (hper 1).symm⟩) hd) (by simp)

/-- **`a: ${a}` is a loop**: for every key text `a` (without `:`) whose value `s` parses to the
whole-value reference to `a` itself, rendering that value gives `Err.loop` — for every root
containing the entry, every state with room for two resolutions, every fuel `≥ 10`. -/
theorem self_ref_is_loop (root : Mapping) (a s : Str) (st : RState)
    (hparse : Token.parse s = .ok (some (.ref [.lit a]))) (hcolon : ':' ∉ a)
    (hget : root.get (.str a) = some (.str s))
    (hd : st.depth + 2 ≤ maxDepth) (n : Nat) (hn : 10 ≤ n) :
    interp n root (.str s) st = .error .loop :=
  cycle_is_loop root (fun _ => a) (fun _ => s) 1 (Nat.le_refl _) (fun _ => rfl) (fun _ => hget)
    (fun _ => hparse) (fun _ => hcolon) st hd n hn

/-- **`a: ${b}`, `b: ${a}` is a loop** (same generality as `self_ref_is_loop`; `a = b` allowed). -/
theorem two_cycle_is_loop (root : Mapping) (a b sa sb : Str) (st : RState)
    (hpa : Token.parse sa = .ok (some (.ref [.lit b])))
    (hpb : Token.parse sb = .ok (some (.ref [.lit a])))
    (hca : ':' ∉ a) (hcb : ':' ∉ b)
    (hga : root.get (.str a) = some (.str sa)) (hgb : root.get (.str b) = some (.str sb))
    (hd : st.depth + 3 ≤ maxDepth) (n : Nat) (hn : 14 ≤ n) :
    interp n root (.str sa) st = .error .loop := by
  have key := cycle_is_loop root (fun i => if i % 2 = 0 then a else b)
    (fun i => if i % 2 = 0 then sa else sb) 2 (by omega)
    (by intro i; simp)
    (by
      intro i
      rcases Nat.mod_two_eq_zero_or_one i with h | h <;> simp [h, hga, hgb])
    (by
      intro i
      rcases Nat.mod_two_eq_zero_or_one i with h | h
      · have h' : (i + 1) % 2 = 1 := by omega
        simp [h, h', hpa]
      · have h' : (i + 1) % 2 = 0 := by omega
        simp [h, h', hpb])
    (by
      intro i
      rcases Nat.mod_two_eq_zero_or_one i with h | h <;> simp [h, hca, hcb])
    st hd n hn
  simpa using key

/-- **A parameter set containing a reference cycle never renders**: whatever else is in `root`
and whatever the fuel, `render_parameters` does not return a mapping (it returns an error: the
loop error, or an error raised by an entry rendered earlier, or `Err.fuel` for tiny fuel). -/
theorem cycle_never_renders (root : Mapping) (p s : Nat → Str) (k : Nat) (hk : 1 ≤ k)
    (hk64 : k + 1 ≤ maxDepth)
    (hper : ∀ i, p (i + k) = p i)
    (hget : ∀ i, root.get (.str (p i)) = some (.str (s i)))
    (hparse : ∀ i, Token.parse (s i) = .ok (some (.ref [.lit (p (i+1))])))
    (hcolon : ∀ i, ':' ∉ p i) (n : Nat) (m : Mapping) :
    renderParamsF n root ≠ .ok m := by
  intro h
  simp only [renderParamsF_eqB, renderedF_eqB, bind1_ok, bind2_ok] at h
  obtain ⟨_, ⟨v', st', hi, -⟩, -⟩ := h
  cases n with
  | zero => cases hi
  | succ n =>
    simp only [Mapping.toValue, interp_mapB, bind1_ok] at hi
    obtain ⟨m', hes, -⟩ := hi
    obtain ⟨x, st1, hx⟩ := interpEs_ok_all hes _ _ (lookup_mem_entry (hget 0))
    have hloop := cycle_is_loop root p s k hk hper hget hparse hcolon
      (({} : RState).pushMappingKey (.str (p 0))) (by simp [RState.pushMappingKey]; omega)
      (max n (4 * k + 6)) (Nat.le_max_right _ _)
    rw [interp_fuel_mono_le (Nat.le_max_left _ _) root _ _ hx (by simp)] at hloop
    cases hloop

/-! ### Acyclic chains up to the limit resolve -/

/-- Values that `interpolate` leaves alone and that end the `while` loops of `resolve`. -/
def Scalar (v : Value) : Prop :=
  v.isStr = false ∧ v.isVl = false ∧ v.isMap = false ∧ v.isSeq = false

theorem interp_scalar {v : Value} (hv : Scalar v) (n : Nat) (root : Mapping) (st : RState) :
    interp (n+1) root v st = .ok (v, st) :=
  Reclass.interp_scalar hv.1 hv.2.2.1 hv.2.2.2 hv.2.1 n root st

/-- Induction behind `chain_resolves` and `chain_resolves_str`: the chain ends in any value `v`
that the loop at the end of `resolve` turns into an `x` which is neither a string nor a layer list
and which `interpolate` leaves alone. -/
theorem chain_resolves_aux (root : Mapping) (v x : Value)
    (hfin : ∀ n st, finalLoop (n+3) root v st = .ok (x, st))
    (hx1 : x.isStr = false) (hx2 : x.isVl = false)
    (hx : ∀ n st, interp (n+1) root x st = .ok (x, st)) :
    ∀ (k : Nat) (p s : Nat → Str) (st : RState) (sref : Str),
      Token.parse sref = .ok (some (.ref [.lit (p 0)])) →
      (∀ i, i < k → root.get (.str (p i)) = some (.str (s i)) ∧
        Token.parse (s i) = .ok (some (.ref [.lit (p (i+1))]))) →
      root.get (.str (p k)) = some v →
      (∀ i, i ≤ k → ':' ∉ p i) →
      (∀ i, i ≤ k → p i ∉ st.seen) →
      (∀ i i', i < i' → i' ≤ k → p i ≠ p i') →
      st.depth + k + 1 ≤ maxDepth →
      ∃ st', interp (4*k+6) root (.str sref) st = .ok (x, st') ∧ st'.depth = st.depth + k + 1 := by
  intro k
  induction k with
  | zero =>
    intro p s st sref hsref _ hlast hcolon hseen _ hd
    have hd' : ¬ (st.depth + 1 > maxDepth) := by omega
    rw [interp_wholeRef 0 root sref (p 0) st v hsref (hcolon 0 (Nat.le_refl _)) hlast,
      if_neg hd', if_neg (hseen 0 (Nat.le_refl _)), hfin]
    exact ⟨_, hx _ _, rfl⟩
  | succ k ih =>
    intro p s st sref hsref hlinks hlast hcolon hseen hdist hd
    have hd' : ¬ (st.depth + 1 > maxDepth) := by omega
    have h0 := hlinks 0 (Nat.succ_pos _)
    obtain ⟨st', hst', hdep⟩ := ih (fun i => p (i+1)) (fun i => s (i+1))
      { st with depth := st.depth + 1, seen := p 0 :: st.seen } (s 0) h0.2
      (fun i hi => hlinks (i+1) (Nat.succ_lt_succ hi)) hlast
      (fun i hi => hcolon (i+1) (Nat.succ_le_succ hi))
      (fun i hi hm => by
        rcases List.mem_cons.1 hm with heq | hm'
        · exact hdist 0 (i+1) (Nat.succ_pos _) (Nat.succ_le_succ hi) heq.symm
        · exact hseen (i+1) (Nat.succ_le_succ hi) hm')
      (fun i i' hii hi' => hdist (i+1) (i'+1) (Nat.succ_lt_succ hii) (Nat.succ_le_succ hi'))
      (by simp only; omega)
    refine ⟨st', ?_, by rw [hdep]; simp only; omega⟩
    rw [show 4 * (k + 1) + 6 = (4 * k + 4) + 6 by omega,
      interp_wholeRef (4*k+4) root sref (p 0) st _ hsref (hcolon 0 (Nat.zero_le _)) h0.1,
      if_neg hd', if_neg (hseen 0 (Nat.zero_le _)),
      show 4 * k + 4 + 3 = (4 * k + 6) + 1 by omega, finalLoop_strB, hst']
    simp only [bind2, Termination.finalLoop_done hx1 hx2 root st' (4*k+6) (by omega), hx]

/-- **Chains up to the limit are never rejected.**  An acyclic chain of whole-value references
`"${p 0}"`, `root[p 0] = "${p 1}"`, …, `root[p (k-1)] = "${p k}"`, `root[p k] = v` with `v`
a scalar, the `k+1` names pairwise distinct, resolves to `v` from the initial state whenever it
needs at most 64 resolutions (`k + 1 ≤ 64`): it is reported neither as a loop nor as too deep.
The final state records exactly `k+1` levels. -/
theorem chain_resolves (root : Mapping) (p s : Nat → Str) (v : Value) (hv : Scalar v)
    (k : Nat) (sref : Str)
    (hsref : Token.parse sref = .ok (some (.ref [.lit (p 0)])))
    (hlinks : ∀ i, i < k → root.get (.str (p i)) = some (.str (s i)) ∧
      Token.parse (s i) = .ok (some (.ref [.lit (p (i+1))])))
    (hlast : root.get (.str (p k)) = some v)
    (hcolon : ∀ i, i ≤ k → ':' ∉ p i)
    (hdist : ∀ i i', i < i' → i' ≤ k → p i ≠ p i')
    (hk : k + 1 ≤ maxDepth) (n : Nat) (hn : 4 * k + 6 ≤ n) :
    ∃ st', interp n root (.str sref) {} = .ok (v, st') ∧ st'.depth = k + 1 := by
  obtain ⟨st', h, hdep⟩ := chain_resolves_aux root v v
    (fun _ st => Termination.finalLoop_done hv.1 hv.2.1 root st _ (by omega)) hv.1 hv.2.1
    (interp_scalar hv · root) k p s {} sref hsref hlinks hlast hcolon
    (fun _ _ => List.not_mem_nil) hdist (by simpa using hk)
  exact ⟨st', interp_fuel_mono_le hn root _ _ h (by simp), by simpa using hdep⟩

/-- The same for a chain that ends in a string without reference marker: it resolves to that
text, as a literal. -/
theorem chain_resolves_str (root : Mapping) (p s : Nat → Str) (last : Str)
    (hparse : Token.parse last = .ok none) (k : Nat) (sref : Str)
    (hsref : Token.parse sref = .ok (some (.ref [.lit (p 0)])))
    (hlinks : ∀ i, i < k → root.get (.str (p i)) = some (.str (s i)) ∧
      Token.parse (s i) = .ok (some (.ref [.lit (p (i+1))])))
    (hlast : root.get (.str (p k)) = some (.str last))
    (hcolon : ∀ i, i ≤ k → ':' ∉ p i)
    (hdist : ∀ i i', i < i' → i' ≤ k → p i ≠ p i')
    (hk : k + 1 ≤ maxDepth) (n : Nat) (hn : 4 * k + 6 ≤ n) :
    ∃ st', interp n root (.str sref) {} = .ok (.lit last, st') ∧ st'.depth = k + 1 := by
  obtain ⟨st', h, hdep⟩ := chain_resolves_aux root (.str last) (.lit last)
    (fun n st => by rw [finalLoop_strB, interp_strB, hparse]; rfl) rfl rfl (fun _ _ => rfl)
    k p s {} sref hsref hlinks hlast hcolon (fun _ _ => List.not_mem_nil) hdist (by simpa using hk)
  exact ⟨st', interp_fuel_mono_le hn root _ _ h (by simp), by simpa using hdep⟩

/-- **A chain longer than the limit is reported as too deep, not as a loop.**  If following the
links `p 0 → p 1 → …` (distinct, not yet seen) `k` times from `st` reaches the depth limit, the
next reference is not resolved: the outcome is the depth error for the current parameter,
whatever `root` holds beyond the `k` links. -/
theorem chain_too_deep (root : Mapping) : ∀ (k : Nat) (p s : Nat → Str) (st : RState) (sref : Str),
    Token.parse sref = .ok (some (.ref [.lit (p 0)])) →
    (∀ i, i < k → root.get (.str (p i)) = some (.str (s i)) ∧
      Token.parse (s i) = .ok (some (.ref [.lit (p (i+1))]))) →
    (∀ i, i < k → ':' ∉ p i) →
    (∀ i, i < k → p i ∉ st.seen) →
    (∀ i i', i < i' → i' < k → p i ≠ p i') →
    maxDepth ≤ st.depth + k →
    interp (4*k+6) root (.str sref) st = .error (.depth st.curKey) := by
  intro k
  induction k with
  | zero =>
    intro p s st sref hsref _ _ _ _ hd
    rw [interp_strB, hsref]
    show tokRender 5 root (.ref [.lit (p 0)]) st = _
    rw [tokRender_succB, depth_blocks 3 root _ st hd]; rfl
  | succ k ih =>
    intro p s st sref hsref hlinks hcolon hseen hdist hd
    have h0 := hlinks 0 (Nat.succ_pos _)
    rw [show 4 * (k + 1) + 6 = (4 * k + 4) + 6 by omega,
      interp_wholeRef (4*k+4) root sref (p 0) st _ hsref (hcolon 0 (Nat.succ_pos _)) h0.1]
    by_cases hd' : st.depth + 1 > maxDepth
    · rw [if_pos hd']
    · rw [if_neg hd', if_neg (hseen 0 (Nat.succ_pos _)),
        show 4 * k + 4 + 3 = (4 * k + 6) + 1 by omega, finalLoop_strB,
        ih (fun i => p (i+1)) (fun i => s (i+1))
          { st with depth := st.depth + 1, seen := p 0 :: st.seen } (s 0) h0.2
          (fun i hi => hlinks (i+1) (Nat.succ_lt_succ hi))
          (fun i hi => hcolon (i+1) (Nat.succ_lt_succ hi))
          (fun i hi hm => by
            rcases List.mem_cons.1 hm with heq | hm'
            · exact hdist 0 (i+1) (Nat.succ_pos _) (Nat.succ_lt_succ hi) heq.symm
            · exact hseen (i+1) (Nat.succ_lt_succ hi) hm')
          (fun i i' hii hi' => hdist (i+1) (i'+1) (Nat.succ_lt_succ hii) (Nat.succ_lt_succ hi'))
          (by simp only; omega)]
      rfl

/-! ### No false loops: siblings never see each other's state -/

/-- **Sequence elements get a copy of the incoming state.** Element `v` is interpolated from
`st` (with its index pushed), its final state is dropped, and the remaining elements are again
interpolated from `st`. -/
theorem sibling_isolation_seq (n : Nat) (root : Mapping) (v : Value) (vs : List Value) (idx : Nat)
    (st : RState) :
    interpL (n+1) root (v :: vs) idx st =
      match interp n root v (st.pushListIndex idx) with
      | .error e => .error e
      | .ok (x, _) =>
        match interpL n root vs (idx + 1) st with
        | .error e => .error e
        | .ok xs => .ok (x :: xs) := interpL_cons n root v vs idx st

/-- **Mapping entries get a copy of the incoming state.** The state returned by one entry is
used only to word that entry's own flatten errors; the next entry starts from `st` again. -/
theorem sibling_isolation_map (n : Nat) (root : Mapping) (k : Key) (v : Value)
    (rest : List (Key × Value)) (ck ok : List Key) (st : RState) (acc : Mapping) :
    interpEs (n+1) root ((k, v) :: rest) ck ok st acc =
      match interp n root v (st.pushMappingKey k) with
      | .error e => .error e
      | .ok (v', st') =>
        match flat v' st' with
        | .error e => .error e
        | .ok v'' =>
          match acc.insertImpl k v'' (decide (k ∈ ck)) (decide (k ∈ ok)) with
          | .error e => .error e
          | .ok acc' => interpEs n root rest ck ok st acc' := interpEs_cons n root k v rest ck ok st acc

/-- **Layers of a `ValueList` get a copy of the incoming state** (first loop of the
`ValueList` arm of `interpolate`). -/
theorem sibling_isolation_layers (n : Nat) (root : Mapping) (v : Value) (vs : List Value)
    (r : Value) (st : RState) :
    interpVl (n+1) root (v :: vs) r st =
      match interp n root v st with
      | .error e => .error e
      | .ok (x, st') =>
        match mergeV r x st' with
        | .error e => .error e
        | .ok r' => interpVl n root vs r' st := interpVl_cons n root v vs r st

/-- **String layers in `interpolate_string_or_valuelist` get a copy of the incoming state.** -/
theorem sibling_isolation_strlayers (n : Nat) (root : Mapping) (v : Value) (vs : List Value)
    (st : RState) :
    layersStr (n+1) root (v :: vs) st =
      match (if v.isStr then (match interp n root v st with
                              | .error e => .error e
                              | .ok (x, _) => .ok x) else .ok v : R Value) with
      | .error e => .error e
      | .ok x =>
        match layersStr n root vs st with
        | .error e => .error e
        | .ok xs => .ok (x :: xs) := layersStr_cons n root v vs st

/-- **Pieces of a token list get a copy of the incoming state** (`interpolate_token_slice`):
the state threaded through one piece (`st'`, `st''`) is not handed to the next piece. -/
theorem sibling_isolation_pieces (n : Nat) (root : Mapping) (t : Token) (ts : List Token)
    (st : RState) :
    slice (n+1) root (t :: ts) st =
      match tokResolve n root t st with
      | .error e => .error e
      | .ok (v, st') =>
        match strLoop n root v st' with
        | .error e => .error e
        | .ok (v', st'') =>
          match sliceFinish n root v' st'' with
          | .error e => .error e
          | .ok s =>
            match slice n root ts st with
            | .error e => .error e
            | .ok s' => .ok (s ++ s') := slice_cons n root t ts st

/-- **A sequence succeeds exactly when its elements do, one by one, each from the incoming
state.**  So no element can be rejected as a loop because of what a sibling resolved. -/
theorem seq_pointwise (root : Mapping) (l xs : List Value) (idx : Nat) (st : RState) :
    (∃ n, interpL n root l idx st = .ok xs) ↔
    (xs.length = l.length ∧ ∃ n, ∀ i (h : i < l.length) (h' : i < xs.length),
      ∃ st', interp n root l[i] (st.pushListIndex (idx + i)) = .ok (xs[i], st')) := by
  constructor
  · rintro ⟨n, h⟩
    obtain ⟨hlen, hall⟩ := interpL_ok_all h
    exact ⟨hlen, n, hall⟩
  · rintro ⟨hlen, n, hall⟩
    exact ⟨_, interpL_of_all l idx xs hlen hall⟩

/-- Entries of a mapping that interpolates successfully each interpolate from the incoming
state. -/
theorem map_entries_from_incoming_state {n : Nat} {root : Mapping} {ck ok : List Key} {st : RState}
    {es : List (Key × Value)} {acc m : Mapping} (h : interpEs n root es ck ok st acc = .ok m)
    (k : Key) (v : Value) (hm : (k, v) ∈ es) :
    ∃ x st', interp n root v (st.pushMappingKey k) = .ok (x, st') :=
  interpEs_ok_all h k v hm

/-- **The same reference used twice is fine.** If a value interpolates from the incoming state
(as element 0 and as element 1), then the two-element sequence `[v, v]` interpolates to the two
results: the second use does not see the `seen` entries of the first. -/
theorem repeated_ref_ok (n : Nat) (root : Mapping) (v : Value) (st : RState) (x x' : Value)
    (st1 st1' : RState)
    (h0 : interp n root v (st.pushListIndex 0) = .ok (x, st1))
    (h1 : interp n root v (st.pushListIndex 1) = .ok (x', st1')) :
    interpL (n+2) root [v, v] 0 st = .ok [x, x'] := by
  cases n with
  | zero => cases h0
  | succ n => rw [interpL_consB, interp_fuel_mono _ _ _ h0 (by simp), interpL_consB, h1]; rfl

/-! ### Rendering always comes back -/

/-- **Termination of `Value::interpolate`.**  For every root, every value and every resolution
state there is an amount of fuel at which the model returns a value or a genuine error, never
`Err.fuel`; by `fuel_mono` that outcome is then the outcome at every larger fuel. -/
theorem interp_terminates (root : Mapping) (v : Value) (st : RState) :
    ∃ n, interp n root v st ≠ .error .fuel :=
  Termination.interp_terminates root v st

/-- The outcome of `Value::interpolate` is well defined: there is one non-fuel outcome `r` that
the model returns for all sufficiently large fuel. -/
theorem interp_settles (root : Mapping) (v : Value) (st : RState) :
    ∃ N r, r ≠ .error .fuel ∧ ∀ n, N ≤ n → interp n root v st = r :=
  (Termination.allConv root _ st (Nat.le_refl _)).interp v

/-- **Rendering always comes back with a result or an error**: `render_parameters` settles on a
mapping or a genuine error for every parameter mapping. -/
theorem renderParams_settles (m : Mapping) :
    ∃ N r, r ≠ .error .fuel ∧ ∀ n, N ≤ n → renderParamsF n m = r := by
  show Termination.Conv fun n => renderParamsF n m
  simp only [renderParamsF_eqB, renderedF_eqB]
  exact .bind1 (.bind2 (interp_settles m m.toValue {}) fun _ _ _ _ =>
      .const (Termination.flat_noFuel _ _)) fun v'' _ _ => .const (by cases v'' <;> nofun)

/-! ### Non-vacuity and concrete instances -/

def isLoop {α : Type} : R α → Bool | .error .loop => true | _ => false
def isDepth {α : Type} : R α → Bool | .error (.depth _) => true | _ => false
def isOk {α : Type} : R α → Bool | .ok _ => true | _ => false

def parsesToRefLit (s a : Str) : Bool :=
  match Token.parse s with
  | .ok (some (.ref [.lit b])) => b == a
  | _ => false

theorem parsesToRefLit_sound {s a : Str} (h : parsesToRefLit s a = true) :
    Token.parse s = .ok (some (.ref [.lit a])) := by
  unfold parsesToRefLit at h
  split at h
  · rename_i b hb; rw [hb]; simp at h; rw [h]
  · simp at h

theorem isLoop_sound {α : Type} {r : R α} (h : isLoop r = true) : r = .error .loop := by
  unfold isLoop at h; split at h <;> simp_all

def rendersToJson (fuel : Nat) (root : Mapping) (json : String) : Bool :=
  match renderParamsF fuel root with
  | .ok m => (match jsonOf m.toValue with | .ok s => s == json.toList | _ => false)
  | _ => false

/-- The kernel evaluates `String.toList` of a literal in quadratic time; a literal unifies with
`String.ofList l` in linear time. -/
theorem rendersToJson_ofList {fuel : Nat} {root : Mapping} {l : Str}
    (h : (renderParamsF fuel root >>= fun m => jsonOf m.toValue) = .ok l) :
    rendersToJson fuel root (String.ofList l) = true := by
  unfold rendersToJson
  rw [String.toList_ofList]
  cases hr : renderParamsF fuel root with
  | error e => rw [hr] at h; cases h
  | ok m =>
    rw [hr] at h
    have hj : jsonOf m.toValue = .ok l := h
    simp [hj]

example : Token.parse "${a}".toList = .ok (some (.ref [.lit "a".toList])) :=
  parsesToRefLit_sound (by decide +kernel)
example : Token.parse "${foo_bar}".toList = .ok (some (.ref [.lit "foo_bar".toList])) :=
  parsesToRefLit_sound (by decide +kernel)

example (st : RState) (hd : st.depth + 2 ≤ maxDepth) (n : Nat) (hn : 10 ≤ n) :
    interp n ⟨[(.str "x".toList, .num (.int 1)), (.str "a".toList, .str "${a}".toList)], [], []⟩
      (.str "${a}".toList) st = .error .loop :=
  self_ref_is_loop _ "a".toList "${a}".toList st (parsesToRefLit_sound (by decide +kernel)) (by decide) (by rfl) hd n hn

example (n : Nat) (hn : 14 ≤ n) :
    interp n ⟨[(.str "a".toList, .str "${b}".toList), (.str "b".toList, .str "${a}".toList)], [], []⟩
      (.str "${b}".toList) {} = .error .loop :=
  two_cycle_is_loop _ "a".toList "b".toList "${b}".toList "${a}".toList {} (parsesToRefLit_sound (by decide +kernel))
    (parsesToRefLit_sound (by decide +kernel)) (by decide) (by decide)
    (by rfl) (by rfl) (by decide) n hn

-- whole-program runs: 1-, 2-, 3-cycles, and a cycle through a nested path / embedded reference
example : renderParamsF 50 ⟨[(.str "a".toList, .str "${a}".toList)], [], []⟩ = .error .loop :=
  isLoop_sound (by decide +kernel)
example : renderParamsF 50 ⟨[(.str "a".toList, .str "${b}".toList),
    (.str "b".toList, .str "${a}".toList)], [], []⟩ = .error .loop := isLoop_sound (by decide +kernel)
example : renderParamsF 50 ⟨[(.str "a".toList, .str "${b}".toList), (.str "b".toList, .str "${c}".toList),
    (.str "c".toList, .str "x-${a}".toList)], [], []⟩ = .error .loop := isLoop_sound (by decide +kernel)
example : renderParamsF 50 ⟨[(.str "a".toList, .map [(.str "b".toList, .str "pre ${c} post".toList)] [] []),
    (.str "c".toList, .str "${a:b}".toList)], [], []⟩ = .error .loop := isLoop_sound (by decide +kernel)

-- the same reference many times, and a diamond (`top → l, r → base`), render fine
example : rendersToJson 50 ⟨[(.str "a".toList, .str "x".toList),
    (.str "b".toList, .seq [.str "${a}".toList, .str "${a}".toList, .str "${a}".toList]),
    (.str "c".toList, .str "${a}${a}-${a}".toList)], [], []⟩
    "{\"a\":\"x\",\"b\":[\"x\",\"x\",\"x\"],\"c\":\"xx-x\"}" = true := rendersToJson_ofList (by decide +kernel)
example : rendersToJson 50 ⟨[(.str "top".toList, .str "${l}+${r}".toList),
    (.str "l".toList, .str "${base}".toList), (.str "r".toList, .str "${base}".toList),
    (.str "base".toList, .str "v".toList)], [], []⟩
    "{\"base\":\"v\",\"l\":\"v\",\"r\":\"v\",\"top\":\"v+v\"}" = true := rendersToJson_ofList (by decide +kernel)

/-- Two-character names `k?` for long chains (cheap to parse in the kernel). -/
def nm (i : Nat) : Str := ['k', Char.ofNat (256 + i)]
def chainRoot (len : Nat) (last : Str) : Mapping :=
  ⟨(List.range len).map (fun i => (.str (nm i), .str ("${".toList ++ nm (i+1) ++ "}".toList))) ++
    [(.str (nm len), .str last)], [], []⟩

theorem nm_inj {i j : Nat} (hi : i < 66) (hj : j < 66) (h : nm i = nm j) : i = j := by
  have key : ∀ i, i < 66 → ((nm i).getD 1 'k').toNat = 256 + i := by decide +kernel
  have := key i hi
  rw [h, key j hj] at this
  omega

theorem lookup_generated (key : Nat → Key) (val : Nat → Value) (rest : List (Key × Value)) (i : Nat)
    (l : List Nat) (hi : i ∈ l) (hinj : ∀ j, j ∈ l → key j = key i → j = i) :
    lookup (key i) (l.map (fun j => (key j, val j)) ++ rest) = some (val i) := by
  induction l with
  | nil => cases hi
  | cons j l ih =>
    by_cases hk : key j = key i
    · rw [hinj j List.mem_cons_self hk]; exact lookup_cons_self _ _ _
    · rw [List.map_cons, List.cons_append, lookup_cons_ne hk]
      exact ih ((List.mem_cons.1 hi).resolve_left fun e => hk (e ▸ rfl))
        fun j' hj' => hinj j' (List.mem_cons_of_mem _ hj')

theorem chainRoot_links {len : Nat} (hlen : len ≤ 64) (last : Str) (i : Nat) (hi : i < len) :
    (chainRoot len last).get (.str (nm i)) = some (.str ("${".toList ++ nm (i+1) ++ "}".toList)) ∧
    Token.parse ("${".toList ++ nm (i+1) ++ "}".toList) = .ok (some (.ref [.lit (nm (i+1))])) := by
  have hchars : ∀ j, j < 66 → ∀ c ∈ nm j, c ≠ '$' ∧ c ≠ '\\' ∧ c ≠ '}' := by decide +kernel
  refine ⟨lookup_generated (fun j => .str (nm j))
    (fun j => .str ("${".toList ++ nm (j+1) ++ "}".toList)) _ i (List.range len)
    (List.mem_range.2 hi) fun j hj h =>
      nm_inj (by have := List.mem_range.1 hj; omega) (by omega) (Key.str.inj h), ?_⟩
  exact C06.bare_ref_accepted (nm (i+1)) (hchars _ (by omega)) (List.cons_ne_nil _ _)

-- a chain needing exactly 64 resolutions resolves; 65 hit the depth limit (and are not called a loop)
example : isOk (interp 270 (chainRoot 63 "end".toList) (.str ("${".toList ++ nm 0 ++ "}".toList)) {}) = true := by
  obtain ⟨st', h, -⟩ := chain_resolves_str (chainRoot 63 "end".toList) nm
    (fun i => "${".toList ++ nm (i+1) ++ "}".toList) "end".toList (by decide +kernel) 63
    ("${".toList ++ nm 0 ++ "}".toList) (parsesToRefLit_sound (by decide +kernel))
    (chainRoot_links (by decide) _) (by decide +kernel) (by decide +kernel)
    (fun i i' h h' e => absurd (nm_inj (by omega) (by omega) e) (by omega)) (by decide) 270 (by decide)
  rw [h]; rfl
theorem chain_65_is_depth :
    isDepth (interp 270 (chainRoot 64 "end".toList) (.str ("${".toList ++ nm 0 ++ "}".toList)) {}) = true := by
  have hcolon : ∀ i, i < 64 → ':' ∉ nm i := by decide +kernel
  rw [interp_fuel_mono_le (by decide : 4 * 64 + 6 ≤ 270) _ _ _
    (chain_too_deep (chainRoot 64 "end".toList) 64 nm
      (fun i => "${".toList ++ nm (i+1) ++ "}".toList) {} ("${".toList ++ nm 0 ++ "}".toList)
      (parsesToRefLit_sound (by decide +kernel)) (chainRoot_links (by decide) _) hcolon
      (fun _ _ => List.not_mem_nil)
      (fun i i' h h' e => absurd (nm_inj (by omega) (by omega) e) (by omega)) (by decide))
    (by simp)]
  rfl
example : isDepth (interp 270 (chainRoot 64 "end".toList) (.str ("${".toList ++ nm 0 ++ "}".toList)) {}) = true :=
  chain_65_is_depth

end C08
end Reclass
