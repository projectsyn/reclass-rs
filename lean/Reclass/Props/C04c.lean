/-
  C04c — A path lookup through a layered parameter is lazy.  When a reference path `${cfg:port}`
  passes through a parameter that is defined by several layers,
  `interpolate_string_or_valuelist` (model: `interpStrOrVl` / `layersStr`) resolves **only the
  layers that are bare strings** (reference layers such as `cfg: ${extra}`), keeps every mapping
  or sequence layer exactly as written, merges, and continues the lookup in the merged value.
  Sibling entries inside the mapping layers are therefore not evaluated by the lookup — which
  is what makes `cfg: {port: 80, url: "x:${cfg:port}"}` next to a reference layer
  `cfg: ${extra}` a legal sibling lookup and not a loop.
-/
import Reclass.Props.C04
namespace Reclass
namespace C04c

theorem layersStr_nil (n : Nat) (root : Mapping) (st : RState) :
    layersStr (n+1) root [] st = .ok [] := Reclass.layersStr_nil n root st

theorem layersStr_cons (n : Nat) (root : Mapping) (v : Value) (vs : List Value) (st : RState) :
    layersStr (n+1) root (v :: vs) st =
      match (if v.isStr then (match interp n root v st with
                              | .error e => .error e
                              | .ok (x, _) => .ok x) else .ok v : R Value) with
      | .error e => .error e
      | .ok x =>
        match layersStr n root vs st with
        | .error e => .error e
        | .ok xs => .ok (x :: xs) := Reclass.layersStr_cons n root v vs st

/-- One result per layer; every non-string layer comes back exactly as it went in. -/
theorem layersStr_shape : ∀ (n : Nat) (root : Mapping) (l xs : List Value) (st : RState),
    layersStr n root l st = .ok xs →
      xs.length = l.length ∧ ∀ i (h : i < l.length) (h' : i < xs.length), (l[i]).isStr = false → xs[i] = l[i]
  | 0, _, _, _, _, h => by cases h
  | n+1, root, [], xs, st, h => by cases h; simp
  | n+1, root, v :: vs, xs, st, h => by
    obtain ⟨x, ys, rfl, h2, hx⟩ := layersStr_cons_ok h
    obtain ⟨hl, hi⟩ := layersStr_shape n root vs ys st h2
    refine ⟨by simp [hl], fun i hi1 hi2 hs => ?_⟩
    cases i with
    | zero =>
      rcases hx with ⟨_, rfl⟩ | ⟨hs', _⟩
      · rfl
      · exact absurd hs' (by simpa using hs)
    | succ j => exact hi j (by simpa using hi1) (by simpa using hi2) hs

/-- No string layer: the loop returns the layers as they are, and cannot fail. -/
theorem layersStr_no_string_layers : ∀ (n : Nat) (root : Mapping) (l : List Value) (st : RState),
    (∀ v ∈ l, v.isStr = false) → l.length < n → layersStr n root l st = .ok l
  | 0, _, _, _, _, hn => by omega
  | n+1, root, [], st, _, _ => rfl
  | n+1, root, v :: vs, st, hs, hn => by
    rw [layersStr_cons]
    have hv : v.isStr = false := hs v (List.mem_cons_self ..)
    simp only [hv]
    rw [layersStr_no_string_layers n root vs st (fun w hw => hs w (List.mem_cons_of_mem _ hw))
      (by simp at hn; omega)]
    rfl

/-- Two layer lists that agree on their string layers (same positions, same text) and hold
arbitrary non-string layers elsewhere. -/
inductive SameStrings : List Value → List Value → Prop
  | nil : SameStrings [] []
  | str (s : Str) {l l' : List Value} : SameStrings l l' → SameStrings (.str s :: l) (.str s :: l')
  | other {v v' : Value} {l l' : List Value} : v.isStr = false → v'.isStr = false →
      SameStrings l l' → SameStrings (v :: l) (v' :: l')

/-- The loop fails on one list iff it fails on the other, with the same error. -/
theorem layersStr_only_strings_matter : ∀ (n : Nat) (root : Mapping) (l l' : List Value) (st : RState)
    (e : Err), SameStrings l l' → (layersStr n root l st = .error e ↔ layersStr n root l' st = .error e)
  | 0, _, _, _, _, _, _ => Iff.rfl
  | n+1, root, _, _, st, e, .nil => Iff.rfl
  -- a cons fails iff its head fails or its tail does: the heads are the same string or both
  -- non-strings (which never fail), the tails fail together by induction
  | n+1, root, _, _, st, e, .str s (l := l) (l' := l') h => by
    simp only [layersStr_consB, bind1_err, layersStr_only_strings_matter n root l l' st e h,
      reduceCtorEq, and_false, exists_false, or_false]
  | n+1, root, _, _, st, e, .other (v := v) (v' := v') (l := l) (l' := l') hv hv' h => by
    simp [layersStr_consB, bind1_err, hv, hv', layersStr_only_strings_matter n root l l' st e h]

/-- One step of the path walk (`descend`) through a layer list without string layers: the key
is looked up in the merge of the **raw** layers; nothing inside them has been evaluated. -/
theorem lookup_step_reads_merged_raw_layers (n : Nat) (root : Mapping) (l : List Value) (st : RState)
    (hs : ∀ v ∈ l, v.isStr = false) (hn : l.length < n) :
    interpStrOrVl (n+1) root (.vl l) st =
      match flatVl l .null st with
      | .error e => .error e
      | .ok r => .ok (r, st) := by
  simp only [interpStrOrVl, layersStr_no_string_layers n root l st hs hn]
  cases flatVl l .null st <;> rfl

/-! ### Non-vacuity -/

private def portMap : Value := .map [(.str "port".toList, .num (.int 80)), (.str "url".toList, .str "x:${cfg:port}".toList)] [] []
private def optMap : Value := .map [(.str "tls".toList, .bool true)] [] []

example : SameStrings [portMap, .str "${extra}".toList] [optMap, .str "${extra}".toList] :=
  .other rfl rfl (.str _ .nil)
example : ∀ v ∈ [portMap, optMap], v.isStr = false := by
  intro v hv; simp at hv; rcases hv with rfl | rfl <;> rfl
example (root : Mapping) (st : RState) : layersStr 5 root [portMap, optMap] st = .ok [portMap, optMap] :=
  layersStr_no_string_layers 5 root _ st (by intro v hv; simp at hv; rcases hv with rfl | rfl <;> rfl) (by decide)

end C04c
end Reclass
