/-
  C11b — C11 end to end: `Reclass::render_node` (model: `renderNode`, `renderNodeSrc`) returns a
  value or an error; it never panics — and its outcome does not depend on the model's fuel.

  C11 is about the evaluator on `WF ∧ NoNest` parameters; here it is composed with the fallible
  decoder, the include walk (whose class-name resolution runs the evaluator on the parameters
  accumulated so far), `Node::merge_into`, `NodeInfoMeta::as_reclass` and the final
  `render_parameters`, for every `InvOK` inventory.

  Fuel.  `renderNode` has a fuel argument for the walk; class-name resolution and the final
  rendering call the evaluator with the constant `defaultFuel`.  The `Err.fuel` that remains in
  `renderNode_settles` (the final `render_parameters` exhausting `defaultFuel = 100000` on the
  merged parameters, e.g. on a sequence of more than 100000 elements) is a limit of the *model*,
  not an outcome of the Rust code; `C08.renderParams_settles` shows that it disappears with a
  larger constant.
-/
import Reclass.Lemmas.E2EL
import Reclass.Props.C11
import Reclass.Props.C08
import Reclass.Props.C13
namespace Reclass
namespace C11

/-! ### The stages -/

/-- The fallible decoder of a class / node file never panics (tagged values, constant-key
duplicates and unmodelled keys are ordinary errors). -/
theorem ofSrc_no_panic {loc : Option (List Str)} {src : ClassSrc} (site : PanicSite) :
    NodeM.ofSrc loc src ≠ .error (.panic site) :=
  fun h => ofSrc_np h site rfl

/-- `Node::read_class` never panics. -/
theorem readClass_no_panic {r : Inv} {loc : Option (List Str)} {c : Str} (site : PanicSite) :
    readClass r loc c ≠ .error (.panic site) :=
  fun h => readClass_np h site rfl

/-- `Node::merge_into` never panics (its only failure is a constant-key error). -/
theorem mergeInto_no_panic {self other : NodeM} (site : PanicSite) :
    mergeInto self other ≠ .error (.panic site) :=
  fun h => mergeInto_np h site rfl

/-- Class-name resolution (`Token::render` on the accumulated parameters, then `raw_string`)
does not panic when the accumulated parameters are `WF ∧ NoNest`; in particular the
`todo!()` of the JSON conversion inside `raw_string` is not reached, because what
`Token::render` returns is closed. -/
theorem resolveClassName_no_panic {fuel : Nat} {params : Mapping} {cls : Str}
    (hw : WF params.toValue) (hn : NoNest params.toValue) (site : PanicSite) :
    resolveClassName fuel params cls ≠ .error (.panic site) :=
  fun h => resolveClassName_np ⟨hw, hn⟩ h site rfl

/-- **The include walk never panics**: for an `InvOK` inventory, `render_impl` started with
`WF ∧ NoNest` parameters does not fail with a panic — for every fuel, `seen` list and include
graph, with or without references in include entries. -/
theorem walk_no_panic {r : Inv} (hr : InvOK r) {n : Nat} {self : NodeM} {seen : List Str}
    {root : NodeM} (hs : WF self.params.toValue ∧ NoNest self.params.toValue)
    (hroot : WF root.params.toValue ∧ NoNest root.params.toValue) (site : PanicSite) :
    renderImpl n r self seen root ≠ .error (.panic site) :=
  fun h => renderImpl_np hr hs hroot h site rfl

/-- The same for the class loop. -/
theorem walkClasses_no_panic {r : Inv} (hr : InvOK r) {n : Nat} {loc : Option (List Str)}
    {l seen : List Str} {root : NodeM}
    (hroot : WF root.params.toValue ∧ NoNest root.params.toValue) (site : PanicSite) :
    walkClasses n r loc l seen root ≠ .error (.panic site) :=
  fun h => walkClasses_np hr hroot h site rfl

/-! ### `render_node` never panics -/

/-- `renderNodeSrc` form (explicit node file and metadata). -/
theorem renderNodeSrc_no_panic {fuel : Nat} {r : Inv} {nmeta : MetaM} {src : ClassSrc}
    (hr : InvOK r) (hs : SrcOK src) (site : PanicSite) :
    renderNodeSrc fuel r nmeta src ≠ .error (.panic site) :=
  fun h => renderNodeSrc_np hr hs h site rfl

/-- **C11 end to end.** For every inventory whose files decode from YAML with at most one leading
marker per key, rendering any node — known or unknown, readable or not — with any fuel never
fails with a panic, whatever the site. -/
theorem renderNode_no_panic {fuel : Nat} {r : Inv} {name : Str} (hr : InvOK r) (site : PanicSite) :
    renderNode fuel r name ≠ .error (.panic site) :=
  fun h => renderNode_np hr h site rfl

/-- The outcome of rendering a node is node information or an error that is not a panic. -/
theorem renderNode_outcome {fuel : Nat} {r : Inv} {name : Str} (hr : InvOK r) :
    (∃ info, renderNode fuel r name = .ok info) ∨
    (∃ e, renderNode fuel r name = .error e ∧ ∀ s, e ≠ .panic s) := by
  cases h : renderNode fuel r name with
  | ok info => exact Or.inl ⟨info, rfl⟩
  | error e => exact Or.inr ⟨e, rfl, renderNode_np hr h⟩

/-- The whole inventory: `Inventory::render` over the `renderNode` results of an `InvOK`
inventory fails, if at all, with `nodeFailed name e` where `e` is the non-panic error of node
`name`. -/
theorem render_inventory_no_panic {r : Inv} (hr : InvOK r) {fuel : Nat} {names : List Str}
    {e : Err} (h : Inventory.render (names.map fun n => (n, renderNode fuel r n)) = .error e) :
    ∃ name e', e = .nodeFailed name e' ∧ renderNode fuel r name = .error e' ∧
      ∀ s, e' ≠ .panic s := by
  obtain ⟨name, e', he, hmem⟩ := C13.error_names_failing_node h
  have hn := mem_map_graph hmem
  exact ⟨name, e', he, hn, renderNode_np hr hn⟩

/-! ### Fuel -/

/-- **More fuel never changes an answer other than "out of fuel"** (all inventories). -/
theorem renderNode_fuel_mono {n m : Nat} (hle : n ≤ m) {r : Inv} {name : Str} {res : R NodeInfoM}
    (h : renderNode n r name = res) (hne : res ≠ .error .fuel) : renderNode m r name = res :=
  renderNode_mono_le hle h hne

/-- In particular a node that renders with some fuel renders to the same information with every
larger fuel. -/
theorem renderNode_ok_stable {n m : Nat} (hle : n ≤ m) {r : Inv} {name : Str} {info : NodeInfoM}
    (h : renderNode n r name = .ok info) : renderNode m r name = .ok info :=
  renderNode_mono_le hle h (fun h => nomatch h)

/-- `renderNode` reports `Err.fuel` only if the include walk of the node ran out of its fuel
(`renderImpl` on the base node that carries the node's include list and `_reclass_`), or the
final `render_parameters` ran out of the evaluator's constant budget `defaultFuel` on the merged
parameters — which, for an `InvOK` inventory, are `WF ∧ NoNest`. -/
theorem renderNode_fuel_cases {fuel : Nat} {r : Inv} {name : Str} (hr : InvOK r)
    (h : renderNode fuel r name = .error .fuel) :
    (∃ base : NodeM, renderImpl fuel r base [] {} = .error .fuel) ∨
    (∃ p : Mapping, WF p.toValue ∧ NoNest p.toValue ∧
      renderParamsF defaultFuel p = .error .fuel) := by
  rcases renderNode_cases r name with ⟨_, h1⟩ | ⟨_, _, _, h1⟩ | ⟨i, src, nm, hf, h1⟩
  · rw [h1] at h; cases h
  · rw [h1] at h; cases h
  · rw [h1] at h
    rcases renderNodeSrc_fuel_cases hr (nodeSrcOK hr hf) h with ⟨self, bp, _, hw⟩ | ⟨fin, hfin, he⟩
    · exact Or.inl ⟨_, hw⟩
    · exact Or.inr ⟨fin.params, hfin.1, hfin.2, he⟩

/-- **The outcome of `render_node` settles** (inventories whose include entries are plain names:
no reference marker, no leading dot — `PlainFiles`, checkable by `plainFilesB`).  There is `N`
such that for every fuel `≥ N` rendering the node gives one fixed outcome `res`; `res` is never a
panic; and `res` is "out of fuel" only if the final `render_parameters` exhausted the evaluator's
*constant* budget `defaultFuel` on the merged parameters `p` (which are `WF ∧ NoNest`) — never
because of the walk, whatever the include graph (cycles included). -/
theorem renderNode_settles {r : Inv} (hr : InvOK r) (hp : PlainFiles r) (name : Str) :
    ∃ N res, (∀ fuel, N ≤ fuel → renderNode fuel r name = res) ∧
      (∀ site, res ≠ .error (.panic site)) ∧
      (res = .error .fuel →
        ∃ p : Mapping, WF p.toValue ∧ NoNest p.toValue ∧
          renderParamsF defaultFuel p = .error .fuel) := by
  rcases renderNode_cases r name with ⟨_, h1⟩ | ⟨_, _, _, h1⟩ | ⟨i, src, nm, hf, h1⟩
  · exact ⟨0, _, fun fuel _ => h1 fuel, (fun _ h => nomatch h), (fun h => nomatch h)⟩
  · exact ⟨0, _, fun fuel _ => h1 fuel, (fun _ h => nomatch h), (fun h => nomatch h)⟩
  · have hsp : PlainSrc src := hp.2 _ (findEntity_some_mem hf) src rfl
    obtain ⟨N, hN, hfuel⟩ := renderNodeSrc_settles_plain (nmeta := nm) hr hp (nodeSrcOK hr hf) hsp
    refine ⟨N, renderNode N r name, fun fuel hle => ?_, fun s => renderNode_no_panic hr s,
      fun h => ?_⟩
    · rw [h1, h1]; exact hN fuel hle
    · rw [h1] at h
      obtain ⟨fin, hfin, he⟩ := hfuel h
      exact ⟨fin.params, hfin.1, hfin.2, he⟩

/-- The residual `Err.fuel` case of `renderNode_settles` is about the model's constant, not about
the parameters: for the same merged parameters rendering settles on a non-fuel outcome with
enough evaluator fuel (`C08.renderParams_settles`). -/
theorem renderNode_settles_residue (p : Mapping) :
    ∃ N res, res ≠ .error .fuel ∧ ∀ n, N ≤ n → renderParamsF n p = res :=
  C08.renderParams_settles p

/-- A node that renders at all renders — to the same information — with every fuel from the
settling point on; i.e. for plain inventories "renders with some fuel" = "renders with all
sufficiently large fuel". -/
theorem renderNode_settles_ok {r : Inv} (hr : InvOK r) (hp : PlainFiles r) {name : Str} {k : Nat}
    {info : NodeInfoM} (h : renderNode k r name = .ok info) :
    ∃ N, ∀ fuel, N ≤ fuel → renderNode fuel r name = .ok info := by
  obtain ⟨N, res, hN, _, _⟩ := renderNode_settles hr hp name
  refine ⟨N, fun fuel hle => ?_⟩
  have h1 := hN (max N k) (Nat.le_max_left _ _)
  have h2 := renderNode_ok_stable (Nat.le_max_right N k) h
  rw [hN fuel hle, ← h1, h2]

/-! ### Non-vacuity -/

/-- The example inventory (two classes, `app` includes `base`) satisfies both hypotheses. -/
example : InvOK exInvE2E ∧ PlainFiles exInvE2E := ⟨exInvE2E_ok, exInvE2E_plain⟩

private theorem n1_renders_at_6 : TextL.errOf (renderNode 6 exInvE2E "n1".toList) = none := by
  decide +kernel

/-- Node `n1` renders to a value … -/
example : TextL.errOf (renderNode 30 exInvE2E "n1".toList) = none := by
  cases h : renderNode 6 exInvE2E "n1".toList with
  | error e => have h6 := n1_renders_at_6; rw [h] at h6; cases h6
  | ok info => rw [renderNode_ok_stable (by decide) h]; rfl

/-- … node `bad` to an ordinary error (reference to a missing parameter), `gone` to "class not
found", `unreadable` to an I/O error, an unknown node to "unknown node": errors, not panics. -/
example : TextL.errOf (renderNode 30 exInvE2E "bad".toList) =
    some (.missingKey "nope".toList "nope".toList "q".toList) := by decide +kernel
example : TextL.errOf (renderNode 30 exInvE2E "gone".toList) =
    some (.classNotFound "missing".toList) := by decide +kernel
example : TextL.errOf (renderNode 30 exInvE2E "unreadable".toList) =
    some (.io "EACCES".toList) := by decide +kernel
example : TextL.errOf (renderNode 30 exInvE2E "nobody".toList) =
    some (.unknownNode "nobody".toList) := by decide +kernel

/-- Too little walk fuel is reported as such, so `≠ .error .fuel` / "settles" is not vacuous; the
bound of `renderNode_settles` for node `n1` is `(2+1)·(max 1 1 + 2) = 9`, the walk needs 6. -/
example : TextL.errOf (renderNode 5 exInvE2E "n1".toList) = some .fuel ∧
    TextL.errOf (renderNode 6 exInvE2E "n1".toList) = none := ⟨by decide +kernel, n1_renders_at_6⟩

/-- A decoder failure inside the walk (a tagged value in a class file) is an ordinary error end to
end (it was a `todo!()` panic before the repair of D5). -/
example : TextL.errOf (renderNode 30
    { classes := [("c".toList, { path := ["c.yml".toList], loc := [] },
        .ok { params := [(.str "k".toList, .tagged "!x".toList .null)] })],
      nodes := [("n".toList, { path := ["n.yml".toList], loc := [] },
        .ok { classes := ["c".toList] })] } "n".toList) = some .yamlTaggedValue := by
  decide +kernel

/-- A reference in an include entry that resolves to a mapping takes the JSON text of the mapping
as class name (`raw_string`): "class not found", not the `todo!()` of the JSON conversion. -/
example : TextL.errOf (renderNode 30
    { classes := [("c".toList, { path := ["c.yml".toList], loc := [] },
        .ok { params := [(.str "m".toList, .map [(.str "x".toList, .num (.int 1))]),
                         (.str "m".toList, .map [(.str "y".toList, .num (.int 2))])] })],
      nodes := [("n".toList, { path := ["n.yml".toList], loc := [] },
        .ok { classes := ["c".toList, "${m}".toList] })] } "n".toList) =
    some (.classNotFound "{\"x\":1,\"y\":2}".toList) := by decide +kernel

end C11
end Reclass
