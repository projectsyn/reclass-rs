/-
  C08 (continued) — The depth limit counts along ONE chain of references, not across siblings.

  "Reference loops are reported, never followed without bound; acyclic references (repeated use,
  diamonds, chains up to the documented depth limit 64) are never rejected."

  `ResolveState.depth` is incremented by `Token::resolve` for the reference being resolved and is
  handed *down* (to the path pieces, to the value found, …).  It is never handed *sideways*: the
  pieces of a token list (`interpolate_token_slice` = `slice`) and the layers of a multiply-defined
  parameter (`interpVl`) each start from a copy of the state their loop was called with.  So a
  string with 70 references `${k}${k}…`, or a parameter with 70 reference layers, renders — the
  limit 64 bounds the nesting of one chain only.

  The string-level statement (`many_sibling_refs_render`) needs `n ≥ 2` because a string
  consisting of ONE reference is a whole-value reference (it renders to the value itself, kind
  preserved, not to its text) — the token-level statement `slice_scalar_refs` covers every `n`.
-/
import Reclass.Props.C04
import Reclass.Props.C05
import Reclass.Props.C06
import Reclass.Props.C08
namespace Reclass
namespace C08

/-! ### (a) Pieces of a token list all start from the caller's state -/

/-- Converse of `C05.slice_eq_concat_uniform`. -/
theorem slice_of_piecesAt {k : Nat} {root : Mapping} {st : RState} {ts : List Token}
    {texts : List Str} (h : C05.PiecesAt k root st ts texts) :
    slice (k + ts.length + 1) root ts st = .ok texts.flatten := by
  induction h with
  | nil => rfl
  | @cons t ts x xs h1 _ ih =>
    show slice ((k + ts.length + 1) + 1) root (t :: ts) st = _
    rw [C05.slice_step, C05.pieceText_fuel_mono_le (by omega) h1]
    simp only [ih, List.flatten_cons]

/-- **Siblings do not accumulate depth.**  A token list `t₁ … tₙ` renders from the state `st` to
`s` (with some fuel) *iff* each `tᵢ`, evaluated on its own from that very state `st` — so each
reference among them starts at depth `st.depth`, the `(i+1)`-th exactly like the first — has a
text, and `s` is the concatenation of these texts.  The states returned by earlier pieces (which
are strictly deeper, `ref_resolution_deepens`) play no role, and neither does `n`. -/
theorem siblings_do_not_accumulate_depth {root : Mapping} {ts : List Token} {st : RState} {s : Str} :
    (∃ n, slice n root ts st = .ok s) ↔
      ∃ k texts, C05.PiecesAt k root st ts texts ∧ s = texts.flatten := by
  constructor
  · rintro ⟨n, h⟩
    obtain ⟨texts, hp, hs⟩ := C05.slice_eq_concat_uniform h
    exact ⟨n, texts, hp, hs⟩
  · rintro ⟨k, texts, hp, hs⟩
    exact ⟨_, hs ▸ slice_of_piecesAt hp⟩

/-- **An error of the list is the error of one piece on its own.**  Whatever error
`interpolate_token_slice` returns (fuel ≥ 1) is returned by one of its pieces evaluated from the
caller's state `st` — not from a state left behind by a sibling. -/
theorem slice_error_is_piece_error {root : Mapping} {st : RState} {e : Err} :
    ∀ {ts : List Token} {n : Nat}, slice (n+1) root ts st = .error e →
      ∃ t ∈ ts, ∃ k, k ≤ n ∧ C05.pieceText k root t st = .error e := by
  intro ts
  induction ts with
  | nil => intro n h; cases h
  | cons t ts ih =>
    intro n h
    rw [C05.slice_step] at h
    split at h
    next h1 => cases h; exact ⟨t, List.mem_cons_self, n, Nat.le_refl _, h1⟩
    next h1 =>
      cases n with
      | zero => cases h1
      | succ n =>
        split at h
        next h2 =>
          cases h
          obtain ⟨t', ht', k, hk, hp⟩ := ih h2
          exact ⟨t', List.mem_cons_of_mem _ ht', k, by omega, hp⟩
        · cases h

/-- In particular: if a token list fails with the depth error, then one of its pieces, resolved
on its own from the caller's state, already fails with that depth error.  A list of pieces each
of which is fine on its own is never "too deep". -/
theorem sibling_depth_error_is_own {root : Mapping} {st : RState} {ts : List Token} {n : Nat}
    {c : Str} (h : slice (n+1) root ts st = .error (.depth c)) :
    ∃ t ∈ ts, ∃ k, C05.pieceText k root t st = .error (.depth c) := by
  obtain ⟨t, ht, k, _, hp⟩ := slice_error_is_piece_error h
  exact ⟨t, ht, k, hp⟩

/-! ### (b) Any number of sibling references to scalars -/

/-- The text a scalar parameter value contributes to a string. -/
def scalarText : Value → Option Str
  | .str s => if containsMarker s then none else some s
  | .lit s => some s
  | .null => some "None".toList
  | .bool true => some "True".toList
  | .bool false => some "False".toList
  | .num n => some n.yamlText
  | _ => none

/-- A key usable in the plain reference syntax `${k}`: non-empty, none of `$ \ } :`. -/
def simpleKey (k : Str) : Bool := !k.isEmpty && k.all (fun c => C06.plainChar c && c != ':')

theorem simpleKey_ne {k : Str} (h : simpleKey k = true) : k ≠ [] := by
  intro e; subst e; simp [simpleKey] at h

theorem simpleKey_plain {k : Str} (h : simpleKey k = true) : k.all C06.plainChar = true := by
  simp only [simpleKey, Bool.and_eq_true, List.all_eq_true] at h ⊢
  exact fun c hc => (h.2 c hc).1

theorem simpleKey_colon {k : Str} (h : simpleKey k = true) : ':' ∉ k := by
  simp only [simpleKey, Bool.and_eq_true, List.all_eq_true] at h
  intro hm
  have := (h.2 ':' hm).2
  simp at this

theorem finalLoop_scalar {v : Value} {x : Str} (h : scalarText v = some x) (n : Nat)
    (root : Mapping) (st : RState) :
    ∃ v', finalLoop (n+2) root v st = .ok (v', st) ∧ v'.isStr = false ∧ v'.isMap = false ∧
      v'.isSeq = false ∧ rawString v' = .ok x := by
  cases v with
  | str s =>
    simp only [scalarText] at h
    split at h
    · cases h
    next hm =>
      obtain rfl : s = x := Option.some.inj h
      refine ⟨.lit s, ?_, rfl, rfl, rfl, rfl⟩
      rw [finalLoop_succ, if_pos (by rfl), C06.no_marker_renders_unchanged n root s st (by simpa using hm)]
      rfl
  | map _ _ _ | seq _ | vl _ => cases h
  | lit _ | null | num _ => cases h; exact ⟨_, rfl, rfl, rfl, rfl, rfl⟩
  | bool b => cases b <;> cases h <;> exact ⟨_, rfl, rfl, rfl, rfl, rfl⟩

/-- **One reference piece to a scalar.**  From any state below the depth limit in which `k` is not
being resolved already, the piece `${k}` of a token list has the text of the scalar stored under
`k` (fuel ≥ 3). -/
theorem piece_ref_scalar (n : Nat) {root : Mapping} {k x : Str} {v : Value} {st : RState}
    (hcolon : ':' ∉ k) (hget : root.get (.str k) = some v) (hx : scalarText v = some x)
    (hd : st.depth + 1 ≤ maxDepth) (hseen : k ∉ st.seen) :
    C05.pieceText (n+3) root (.ref [.lit k]) st = .ok x := by
  obtain ⟨v', hfin, h1, h2, h3, h4⟩ := finalLoop_scalar hx n root
    { st with depth := st.depth + 1, seen := k :: st.seen }
  unfold C05.pieceText
  rw [tokResolve_ref_lit n st hcolon hget, if_neg (Nat.not_lt.2 hd), if_neg hseen, hfin]
  simp only
  rw [strLoop_succ]
  simp only [h1, Bool.false_eq_true, if_false]
  rw [sliceFinish_succ]
  simp only [h2, h3, Bool.or_self, Bool.false_eq_true, if_false, h4]

def refToks (ks : List Str) : List Token := ks.map fun k => .ref [.lit k]

theorem piecesAt_scalar_refs {root : Mapping} {st : RState} (txt : Str → Str)
    (hd : st.depth + 1 ≤ maxDepth) : ∀ (ks : List Str),
    (∀ k ∈ ks, ':' ∉ k ∧ k ∉ st.seen ∧
      ∃ v, root.get (.str k) = some v ∧ scalarText v = some (txt k)) →
    C05.PiecesAt 3 root st (refToks ks) (ks.map txt)
  | [], _ => C05.PiecesAt.nil
  | k :: ks, hk => by
    obtain ⟨hc, hs, v, hg, hx⟩ := hk k (by simp)
    show C05.PiecesAt 3 root st (.ref [.lit k] :: refToks ks) (txt k :: ks.map txt)
    exact C05.PiecesAt.cons (piece_ref_scalar 0 hc hg hx hd hs)
      (piecesAt_scalar_refs txt hd ks fun k' hk' => hk k' (List.mem_cons_of_mem _ hk'))

/-- **Any number of sibling references, token level.**  For *every* list of keys `ks` (repetitions
allowed, any length — also longer than the depth limit 64) that hold scalars, the token list
`${k₀}${k₁}…` renders, from any state below the depth limit in which none of the keys is being
resolved, to the concatenation of the scalars' texts, for every fuel `≥ ks.length + 4`. -/
theorem slice_scalar_refs {root : Mapping} {st : RState} (txt : Str → Str) (ks : List Str)
    (hd : st.depth + 1 ≤ maxDepth)
    (hk : ∀ k ∈ ks, ':' ∉ k ∧ k ∉ st.seen ∧
      ∃ v, root.get (.str k) = some v ∧ scalarText v = some (txt k))
    (fuel : Nat) (hf : ks.length + 4 ≤ fuel) :
    slice fuel root (refToks ks) st = .ok (ks.map txt).flatten := by
  have h := slice_of_piecesAt (piecesAt_scalar_refs txt hd ks hk)
  refine slice_fuel_mono_le ?_ root _ st h (by simp)
  simp only [refToks, List.length_map]; omega

def refsText : List Str → Str
  | [] => []
  | k :: ks => '$' :: '{' :: (k ++ '}' :: refsText ks)

theorem refsText_eq_encodeL (ks : List Str) : refsText ks = C06.encodeL (refToks ks) := by
  induction ks with
  | nil => rfl
  | cons k ks ih =>
    simp only [refsText, refToks, List.map_cons, C06.encodeL, C06.encode, ih, List.append_nil,
      List.cons_append, List.append_assoc, List.nil_append]

theorem refToks_wfInnerL (ks : List Str) (hk : ∀ k ∈ ks, simpleKey k = true) :
    Token.wfInnerL (refToks ks) = true := by
  induction ks with
  | nil => rfl
  | cons k ks ih =>
    have hne : k ≠ [] := simpleKey_ne (hk k (by simp))
    have : k.isEmpty = false := by cases k <;> simp_all
    simp only [refToks, List.map_cons, Token.wfInnerL, Token.wfInner, noAdjLit, headIsLit,
      Token.isLit, List.isEmpty_cons, this, Bool.not_false, Bool.and_true, Bool.true_and,
      Bool.and_false]
    exact ih fun k' hk' => hk k' (List.mem_cons_of_mem _ hk')

theorem refToks_noAdjLit (ks : List Str) : noAdjLit (refToks ks) = true := by
  induction ks with
  | nil => rfl
  | cons k ks ih =>
    simp only [refToks, List.map_cons, noAdjLit, Token.isLit, Bool.false_and, Bool.not_false,
      Bool.true_and]
    exact ih

theorem refToks_plain (ks : List Str) (hk : ∀ k ∈ ks, simpleKey k = true) :
    C06.plainToks (refToks ks) = true := by
  induction ks with
  | nil => rfl
  | cons k ks ih =>
    simp only [refToks, List.map_cons, C06.plainToks, C06.plainTok, Bool.and_true,
      Bool.and_eq_true]
    exact ⟨simpleKey_plain (hk k (by simp)), ih fun k' hk' => hk k' (List.mem_cons_of_mem _ hk')⟩

/-- **`${k₀}${k₁}…` parses to the list of its references** (two or more simple keys). -/
theorem parse_sibling_refs (ks : List Str) (hlen : 2 ≤ ks.length)
    (hk : ∀ k ∈ ks, simpleKey k = true) :
    Token.parse (refsText ks) = .ok (some (.combined (refToks ks))) := by
  have hw : (Token.combined (refToks ks)).wfTop = true := by
    simp only [Token.wfTop, refToks_noAdjLit, refToks_wfInnerL ks hk, Bool.and_true,
      decide_eq_true_eq]
    simpa [refToks] using hlen
  have hp : C06.plainTok (.combined (refToks ks)) = true := by
    simp only [C06.plainTok]; exact refToks_plain ks hk
  have he : C06.encode (.combined (refToks ks)) = refsText ks := by
    simp only [C06.encode, refsText_eq_encodeL]
  have hm : containsMarker (C06.encode (.combined (refToks ks))) = true := by
    rw [he]
    match ks, hlen with
    | k :: _ :: _, _ => simp [refsText, containsMarker]
  have := C06.roundtrip_parse _ hw hp hm
  rwa [he] at this

/-- **Any number of sibling references render.**  For every `n ≥ 2` and every list `ks` of `n`
simple keys (repetitions allowed) that hold scalars in the parameters, the string
`${k₀}${k₁}…${kₙ₋₁}` interpolates — from any state below the depth limit in which none of the
keys is being resolved, for every fuel `≥ n + 7` — to the literal string made of the scalars'
texts in order, and hands the state back unchanged.  In particular there is no depth error for
`n > 64`: the limit counts along one chain, not across siblings. -/
theorem many_sibling_refs_render {root : Mapping} {st : RState} (txt : Str → Str) (ks : List Str)
    (hlen : 2 ≤ ks.length) (hd : st.depth + 1 ≤ maxDepth)
    (hk : ∀ k ∈ ks, simpleKey k = true ∧ k ∉ st.seen ∧
      ∃ v, root.get (.str k) = some v ∧ scalarText v = some (txt k))
    (fuel : Nat) (hf : ks.length + 7 ≤ fuel) :
    interp fuel root (.str (refsText ks)) st = .ok (.lit (ks.map txt).flatten, st) := by
  obtain ⟨f, rfl⟩ : ∃ f, fuel = f + 3 := ⟨fuel - 3, by omega⟩
  rw [C05.mixed_string_renders_concat f root _ _ st
    (parse_sibling_refs ks hlen fun k hkm => (hk k hkm).1)]
  rw [slice_scalar_refs txt ks hd
    (fun k hkm => ⟨simpleKey_colon (hk k hkm).1, (hk k hkm).2.1, (hk k hkm).2.2⟩) f (by omega)]

theorem map_const_replicate {α β : Type} (n : Nat) (a : α) (b : β) :
    (List.replicate n a).map (fun _ => b) = List.replicate n b :=
  List.map_replicate

theorem length_flatten_replicate {α : Type} (n : Nat) (a : List α) :
    (List.replicate n a).flatten.length = n * a.length := by
  rw [List.length_flatten, List.map_replicate, List.sum_replicate_nat]

/-- **`n` references to the same scalar**, for every `n ≥ 2`: the string `${k}${k}…${k}` renders
to `n` copies of the scalar's text, for every fuel `≥ n + 7`. -/
theorem sibling_refs_replicate {root : Mapping} {st : RState} {k x : Str} {v : Value} (n : Nat)
    (hn : 2 ≤ n) (hk : simpleKey k = true) (hget : root.get (.str k) = some v)
    (hx : scalarText v = some x) (hd : st.depth < maxDepth) (hseen : k ∉ st.seen)
    (fuel : Nat) (hf : n + 7 ≤ fuel) :
    interp fuel root (.str (refsText (List.replicate n k))) st =
      .ok (.lit (List.replicate n x).flatten, st) := by
  have := many_sibling_refs_render (root := root) (st := st) (fun _ => x) (List.replicate n k)
    (by rw [List.length_replicate]; exact hn) (by omega)
    (by
      intro k' hk'
      obtain rfl : k' = k := (List.mem_replicate.1 hk').2
      exact ⟨hk, hseen, v, hget, hx⟩)
    fuel (by rw [List.length_replicate]; exact hf)
  rwa [map_const_replicate] at this

/-- **70 sibling references** (`70 > 64 = maxDepth`): the string `${k}${k}…${k}` with 70
references to the same scalar parameter renders to 70 copies of its text — no depth error, no
loop error — from the initial state of any parameter (depth 0) and from any state below the
limit, for every fuel `≥ 77`. -/
theorem sibling_refs_70 {root : Mapping} {st : RState} {k x : Str} {v : Value}
    (hk : simpleKey k = true) (hget : root.get (.str k) = some v) (hx : scalarText v = some x)
    (hd : st.depth < maxDepth) (hseen : k ∉ st.seen) (fuel : Nat) (hf : 77 ≤ fuel) :
    interp fuel root (.str (refsText (List.replicate 70 k))) st =
      .ok (.lit (List.replicate 70 x).flatten, st) :=
  sibling_refs_replicate 70 (by decide) hk hget hx hd hseen fuel hf

/-! ### (c) Any number of reference layers -/

/-- What `Value::interpolate` makes of a scalar (a string without marker becomes a literal). -/
def plainRender : Value → Option Value
  | .str s => if containsMarker s then none else some (.lit s)
  | .lit s => some (.lit s)
  | .null => some .null
  | .bool b => some (.bool b)
  | .num n => some (.num n)
  | _ => none

def plainRenderL : List Value → Option (List Value)
  | [] => some []
  | v :: vs =>
    match plainRender v, plainRenderL vs with
    | some x, some xs => some (x :: xs)
    | _, _ => none

theorem plainRenderL_cons {v : Value} {vs l' : List Value} (h : plainRenderL (v :: vs) = some l') :
    ∃ x xs, plainRender v = some x ∧ plainRenderL vs = some xs ∧ l' = x :: xs := by
  simp only [plainRenderL] at h
  split at h
  next x xs h1 h2 => exact ⟨x, xs, h1, h2, (Option.some.inj h).symm⟩
  · cases h

theorem interp_plain {v x : Value} (h : plainRender v = some x) (n : Nat) (root : Mapping)
    (st : RState) : interp (n+1) root v st = .ok (x, st) := by
  cases v with
  | str s =>
    simp only [plainRender] at h
    split at h
    · cases h
    next hm =>
      obtain rfl := Option.some.inj h
      exact C06.no_marker_renders_unchanged n root s st (by simpa using hm)
  | map _ _ _ | seq _ | vl _ => cases h
  | lit _ | null | bool _ | num _ => cases h; rfl

theorem plainRender_idem {v x : Value} (h : plainRender v = some x) : plainRender x = some x := by
  cases v with
  | str s =>
    simp only [plainRender] at h
    split at h
    · cases h
    · cases h; rfl
  | map _ _ _ | seq _ | vl _ => cases h
  | lit _ | null | bool _ | num _ => cases h; rfl

theorem plainRenderL_idem : ∀ {l l' : List Value}, plainRenderL l = some l' →
    plainRenderL l' = some l'
  | [], l', h => by simp only [plainRenderL, Option.some.injEq] at h; subst h; rfl
  | v :: vs, l', h => by
    obtain ⟨x, xs, h1, h2, rfl⟩ := plainRenderL_cons h
    simp only [plainRenderL, plainRender_idem h1, plainRenderL_idem h2]

theorem plainRenderL_length : ∀ {l l' : List Value}, plainRenderL l = some l' →
    l'.length = l.length
  | [], l', h => by simp only [plainRenderL, Option.some.injEq] at h; subst h; rfl
  | v :: vs, l', h => by
    obtain ⟨x, xs, _, h2, rfl⟩ := plainRenderL_cons h
    simp [plainRenderL_length h2]

theorem plainRenderL_append : ∀ {a b : List Value}, plainRenderL a = some a →
    plainRenderL b = some b → plainRenderL (a ++ b) = some (a ++ b)
  | [], b, _, hb => by simpa using hb
  | v :: vs, b, ha, hb => by
    obtain ⟨x, xs, h1, h2, e⟩ := plainRenderL_cons ha
    obtain ⟨rfl, rfl⟩ : v = x ∧ vs = xs := by simpa using e
    simp only [List.cons_append, plainRenderL, h1, plainRenderL_append h2 hb]

theorem interpL_plain (root : Mapping) : ∀ (l : List Value) {l' : List Value},
    plainRenderL l = some l' → ∀ (n idx : Nat) (st : RState),
    interpL (n + l.length + 1) root l idx st = .ok l'
  | [], l', h, n, idx, st => by
    simp only [plainRenderL, Option.some.injEq] at h; subst h; rfl
  | v :: vs, l', h, n, idx, st => by
    obtain ⟨x, xs, h1, h2, rfl⟩ := plainRenderL_cons h
    show interpL ((n + vs.length + 1) + 1) root (v :: vs) idx st = _
    rw [interpL_cons, interp_plain h1, interpL_plain root vs h2 n (idx + 1) st]

def refText (k : Str) : Str := '$' :: '{' :: (k ++ ['}'])

/-- **One reference layer to a sequence of scalars.**  `${k}` where the parameters hold the
sequence `l` under `k` interpolates to the rendered sequence; the state handed back is one level
deeper, but that state is dropped by the layer loop. -/
theorem ref_layer_seq {root : Mapping} {k : Str} {l l' : List Value} {st : RState}
    (hk : simpleKey k = true) (hget : root.get (.str k) = some (.seq l))
    (hl : plainRenderL l = some l') (hd : st.depth + 1 ≤ maxDepth) (hseen : k ∉ st.seen)
    (fuel : Nat) (hf : l.length + 6 ≤ fuel) :
    interp fuel root (.str (refText k)) st =
      .ok (.seq l', { st with depth := st.depth + 1, seen := k :: st.seen }) := by
  obtain ⟨n, rfl⟩ : ∃ n, fuel = (n + l.length) + 6 := ⟨fuel - l.length - 6, by omega⟩
  have hparse : Token.parse (refText k) = .ok (some (.ref [.lit k])) :=
    C06.bare_ref_accepted k (C06.plain_of_all (simpleKey_plain hk)) (simpleKey_ne hk)
  rw [interp_wholeRef (n + l.length) root (refText k) k st (.seq l) hparse (simpleKey_colon hk) hget]
  have hd' : ¬ (st.depth + 1 > maxDepth) := by omega
  simp only [hd', if_false, hseen]
  rw [finalLoop_succ]
  simp only [Value.isStr, Value.isVl, Bool.or_self, Bool.false_eq_true, if_false]
  rw [interp_seq]
  have e : n + l.length + 3 = (n + 2) + l.length + 1 := by omega
  rw [e, interpL_plain root l hl]

def refLayers (ks : List Str) : List Value := ks.map fun k => .str (refText k)

/-- The layer loop over reference layers to sequences, from a sequence accumulator: every layer
is interpolated from the caller's state `st` and appended. -/
theorem layers_loop_seq {root : Mapping} {st : RState} (sq out : Str → List Value) (M : Nat)
    (hd : st.depth + 1 ≤ maxDepth) :
    ∀ (ks : List Str) (acc : List Value),
    (∀ k ∈ ks, simpleKey k = true ∧ k ∉ st.seen ∧ root.get (.str k) = some (.seq (sq k)) ∧
      plainRenderL (sq k) = some (out k) ∧ (sq k).length ≤ M) →
    interpVl (M + 6 + ks.length + 1) root (refLayers ks) (.seq acc) st =
      .ok (.seq (acc ++ (ks.map out).flatten))
  | [], acc, _ => by simp [refLayers, interpVl_nil]
  | k :: ks, acc, hk => by
    obtain ⟨h1, h2, h3, h4, h5⟩ := hk k (by simp)
    show interpVl ((M + 6 + ks.length + 1) + 1) root (.str (refText k) :: refLayers ks) _ st = _
    rw [interpVl_cons, ref_layer_seq h1 h3 h4 hd h2 _ (by omega)]
    simp only [mergeV, mergeNonVl]
    rw [layers_loop_seq sq out M hd ks (acc ++ out k)
      (fun k' hk' => hk k' (List.mem_cons_of_mem _ hk'))]
    simp only [List.map_cons, List.flatten_cons, List.append_assoc]

theorem length_le_flatten_map {α : Type} (f : Str → List α) :
    ∀ (ks : List Str) (k : Str), k ∈ ks → (f k).length ≤ (ks.map f).flatten.length
  | [], k, h => by simp at h
  | k0 :: ks, k, h => by
    simp only [List.map_cons, List.flatten_cons, List.length_append]
    rcases List.mem_cons.1 h with rfl | h
    · omega
    · have := length_le_flatten_map f ks k h; omega

theorem plainRenderL_flatten (out : Str → List Value) :
    ∀ (ks : List Str), (∀ k ∈ ks, plainRenderL (out k) = some (out k)) →
    plainRenderL (ks.map out).flatten = some (ks.map out).flatten
  | [], _ => rfl
  | k :: ks, h => by
    simp only [List.map_cons, List.flatten_cons]
    exact plainRenderL_append (h k (by simp))
      (plainRenderL_flatten out ks fun k' hk' => h k' (List.mem_cons_of_mem _ hk'))

/-- **Any number of reference layers render.**  For every `n ≥ 1` and every list `ks` of `n`
simple keys (repetitions allowed) under which the parameters hold sequences of scalars `sq k`
(rendering to `out k`), the multiply-defined parameter whose `n` layers are the whole-value
references `${k₀}`, …, `${kₙ₋₁}` interpolates — from any state below the depth limit in which none
of the keys is being resolved — to the concatenation `out k₀ ++ … ++ out kₙ₋₁`, and hands the state
back unchanged, for every fuel `≥ T + n + 8` where `T` is the length of the result.  No depth
error for `n > 64`: each layer starts from the caller's state (`C04.layers_render`,
`sibling_isolation_layers`). -/
theorem many_reference_layers_render {root : Mapping} {st : RState} (sq out : Str → List Value)
    (ks : List Str) (hne : ks ≠ []) (hd : st.depth + 1 ≤ maxDepth)
    (hk : ∀ k ∈ ks, simpleKey k = true ∧ k ∉ st.seen ∧ root.get (.str k) = some (.seq (sq k)) ∧
      plainRenderL (sq k) = some (out k))
    (fuel : Nat) (hf : (ks.map out).flatten.length + ks.length + 8 ≤ fuel) :
    interp fuel root (.vl (refLayers ks)) st = .ok (.seq (ks.map out).flatten, st) := by
  refine interp_fuel_mono_le hf root _ st ?_ (by simp)
  generalize hT : (ks.map out).flatten.length = T
  have hk' : ∀ k ∈ ks, simpleKey k = true ∧ k ∉ st.seen ∧
      root.get (.str k) = some (.seq (sq k)) ∧ plainRenderL (sq k) = some (out k) ∧
      (sq k).length ≤ T := by
    intro k hkm
    obtain ⟨h1, h2, h3, h4⟩ := hk k hkm
    refine ⟨h1, h2, h3, h4, ?_⟩
    rw [← plainRenderL_length h4, ← hT]
    exact length_le_flatten_map out ks k hkm
  match ks, hne with
  | k :: ks, _ =>
    obtain ⟨h1, h2, h3, h4, h5⟩ := hk' k (by simp)
    have e : T + (k :: ks).length + 8 = ((T + 6 + ks.length + 1) + 1) + 1 := by
      simp only [List.length_cons]; omega
    have hcons : refLayers (k :: ks) = .str (refText k) :: refLayers ks := rfl
    rw [e, C04.layers_render, hcons, interpVl_cons, ref_layer_seq h1 h3 h4 hd h2 _ (by omega)]
    simp only [mergeV, mergeNonVl]
    rw [layers_loop_seq sq out T hd ks (out k) (fun k' hkm => hk' k' (List.mem_cons_of_mem _ hkm))]
    simp only
    rw [interp_seq]
    have hidem : plainRenderL ((k :: ks).map out).flatten = some ((k :: ks).map out).flatten :=
      plainRenderL_flatten out (k :: ks) fun k' hkm => plainRenderL_idem (hk k' hkm).2.2.2
    simp only [List.map_cons, List.flatten_cons] at hidem hT
    have e2 : T + 6 + ks.length + 1 = (6 + ks.length) + (out k ++ (ks.map out).flatten).length + 1 := by
      rw [hT]; omega
    rw [e2, interpL_plain root _ hidem]
    simp only [List.map_cons, List.flatten_cons]

/-- **`n` reference layers to the same sequence**, for every `n ≥ 1`: a parameter defined `n`
times as `${t}`, where `t` is a sequence of scalars, renders to `n` copies of the rendered
sequence, concatenated, for every fuel `≥ n * length + n + 8`. -/
theorem reference_layers_replicate {root : Mapping} {st : RState} {t : Str} {l l' : List Value}
    (n : Nat) (hn : 1 ≤ n)
    (ht : simpleKey t = true) (hget : root.get (.str t) = some (.seq l))
    (hl : plainRenderL l = some l') (hd : st.depth < maxDepth) (hseen : t ∉ st.seen)
    (fuel : Nat) (hf : n * l.length + n + 8 ≤ fuel) :
    interp fuel root (.vl (refLayers (List.replicate n t))) st =
      .ok (.seq (List.replicate n l').flatten, st) := by
  have hlen : l'.length = l.length := plainRenderL_length hl
  have := many_reference_layers_render (root := root) (st := st) (fun _ => l) (fun _ => l')
    (List.replicate n t)
    (by intro h; have := congrArg List.length h; simp at this; omega) (by omega)
    (by
      intro k' hk'
      obtain rfl : k' = t := (List.mem_replicate.1 hk').2
      exact ⟨ht, hseen, hget, hl⟩)
    fuel (by rw [map_const_replicate, length_flatten_replicate, List.length_replicate, hlen]; exact hf)
  rwa [map_const_replicate] at this

/-- **70 reference layers** (`70 > 64 = maxDepth`): a parameter defined 70 times as `${t}`, where
`t` is a sequence of scalars, renders to 70 copies of the rendered sequence, concatenated — no
depth error, no loop error. -/
theorem reference_layers_70 {root : Mapping} {st : RState} {t : Str} {l l' : List Value}
    (ht : simpleKey t = true) (hget : root.get (.str t) = some (.seq l))
    (hl : plainRenderL l = some l') (hd : st.depth < maxDepth) (hseen : t ∉ st.seen)
    (fuel : Nat) (hf : 70 * l.length + 78 ≤ fuel) :
    interp fuel root (.vl (refLayers (List.replicate 70 t))) st =
      .ok (.seq (List.replicate 70 l').flatten, st) :=
  reference_layers_replicate 70 (by decide) ht hget hl hd hseen fuel hf

/-! ### Non-vacuity and concrete instances -/

def sibRoot : Mapping :=
  ⟨[(.str "a".toList, .num (.int 1)), (.str "s".toList, .str "x".toList),
    (.str "u".toList, .str "${a}${s}${a}".toList)], [], []⟩

example : rendersToJson 60 sibRoot "{\"a\":1,\"s\":\"x\",\"u\":\"1x1\"}" = true :=
  rendersToJson_ofList (by decide +kernel)

example : rendersToJson 80 ⟨[(.str "t".toList, .seq [.num (.int 1), .str "y".toList]),
    (.str "p".toList, .vl [.str "${t}".toList, .str "${t}".toList, .str "${t}".toList])], [], []⟩
    "{\"p\":[1,\"y\",1,\"y\",1,\"y\"],\"t\":[1,\"y\"]}" = true := rendersToJson_ofList (by decide +kernel)

/-- Three layers referring to three different sequences. -/
example : rendersToJson 80 ⟨[(.str "t".toList, .seq [.num (.int 1)]),
    (.str "v".toList, .seq [.num (.int 2), .num (.int 3)]), (.str "w".toList, .seq []),
    (.str "p".toList, .vl [.str "${t}".toList, .str "${v}".toList, .str "${w}".toList])], [], []⟩
    "{\"p\":[1,2,3],\"t\":[1],\"v\":[2,3],\"w\":[]}" = true := rendersToJson_ofList (by decide +kernel)

example : refsText ["a".toList, "s".toList, "a".toList] = "${a}${s}${a}".toList := by decide +kernel
example : refText "t".toList = "${t}".toList := by decide +kernel
example : simpleKey "a".toList = true ∧ simpleKey "a:b".toList = false ∧ simpleKey [] = false := by
  decide +kernel

/-- `many_sibling_refs_render` with all hypotheses discharged (n = 3): from the state in which the
parameter `u` is rendered, for every fuel ≥ 10. -/
example (fuel : Nat) (hf : 10 ≤ fuel) :
    interp fuel sibRoot (.str "${a}${s}${a}".toList) (({} : RState).pushMappingKey (.str "u".toList)) =
      .ok (.lit "1x1".toList, ({} : RState).pushMappingKey (.str "u".toList)) := by
  have h := many_sibling_refs_render (root := sibRoot)
    (st := ({} : RState).pushMappingKey (.str "u".toList))
    (fun k => if k = "a".toList then "1".toList else "x".toList)
    ["a".toList, "s".toList, "a".toList] (by decide) (by decide)
    (by
      intro k hk
      simp only [List.mem_cons, List.not_mem_nil, or_false] at hk
      rcases hk with rfl | rfl | rfl
      · exact ⟨by decide, by simp [RState.pushMappingKey], _, rfl, by decide⟩
      · exact ⟨by decide, by simp [RState.pushMappingKey], _, rfl, by decide⟩
      · exact ⟨by decide, by simp [RState.pushMappingKey], _, rfl, by decide⟩)
    fuel hf
  -- the two texts are identified by kernel evaluation (unifying them in the elaborator is slow)
  rwa [show refsText ["a".toList, "s".toList, "a".toList] = "${a}${s}${a}".toList by decide +kernel,
    show (["a".toList, "s".toList, "a".toList].map
      fun k => if k = "a".toList then "1".toList else "x".toList).flatten = "1x1".toList
      by decide +kernel] at h

example (fuel : Nat) (hf : 77 ≤ fuel) :
    interp fuel sibRoot (.str (refsText (List.replicate 70 "a".toList))) {} =
      .ok (.lit (List.replicate 70 "1".toList).flatten, {}) :=
  sibling_refs_70 (v := .num (.int 1)) (by decide) (by rfl) (by decide) (by decide) (by simp) fuel hf

example (fuel : Nat) (hf : 218 ≤ fuel) :
    interp fuel ⟨[(.str "t".toList, .seq [.num (.int 1), .str "y".toList])], [], []⟩
      (.vl (refLayers (List.replicate 70 "t".toList))) {} =
      .ok (.seq (List.replicate 70 [.num (.int 1), .lit "y".toList]).flatten, {}) :=
  reference_layers_70 (t := "t".toList) (l := [.num (.int 1), .str "y".toList])
    (l' := [.num (.int 1), .lit "y".toList]) (by decide) (by rfl) (by rfl)
    (by decide) (by simp) fuel (by show 70 * 2 + 78 ≤ fuel; omega)

/-- Contrast: 65 references *nested along one chain* do hit the limit (`C08`'s `chainRoot 64`
example), while siblings at the deepest admissible level are still fine: from a state at depth 63
a list of three references renders. -/
example : slice 10 sibRoot (refToks ["a".toList, "s".toList, "a".toList])
    { depth := 63 } = .ok "1x1".toList := by
  have h := slice_scalar_refs (root := sibRoot) (st := { depth := 63 })
    (fun k => if k = "a".toList then "1".toList else "x".toList)
    ["a".toList, "s".toList, "a".toList] (by decide)
    (by
      intro k hk
      simp only [List.mem_cons, List.not_mem_nil, or_false] at hk
      rcases hk with rfl | rfl | rfl
      · exact ⟨by decide, by simp, _, rfl, by decide⟩
      · exact ⟨by decide, by simp, _, rfl, by decide⟩
      · exact ⟨by decide, by simp, _, rfl, by decide⟩)
    10 (by decide)
  rwa [show (["a".toList, "s".toList, "a".toList].map
      fun k => if k = "a".toList then "1".toList else "x".toList).flatten = "1x1".toList
      by decide +kernel] at h

/-- … and at depth 64 each single piece fails on its own — which is the only way a list fails with
the depth error (`sibling_depth_error_is_own`). -/
example : isDepth (slice 10 sibRoot (refToks ["a".toList, "s".toList, "a".toList]) { depth := 64 }) =
    true := by decide +kernel

end C08
end Reclass
