/-
  C19 — Through the Python API, rendered data arrives as native objects equal to the
  rendered values.

  "Mappings as dicts in the same key order, lists as lists, strings as str, booleans as bool,
  null as None, integers as int without loss and other numbers as float."

  Theorems about `Model/Py` (`Value::as_py_obj` in `src/types/value.rs`, `Mapping::as_py_dict`
  in `src/types/mapping.rs`), for every value (no size bound).  The conversion is total on plain
  data, hence on rendered parameters: the `unreachable!()` for a layer list is dead code there.
  A mapping whose keys stay pairwise different *as Python objects* (`PyDistinct`) becomes a dict
  with the same entries in the same order; string-keyed mappings always qualify.  Without
  `PyDistinct` an entry is lost: `1` and `true` are one dict key in Python (`py_key_collision`,
  recorded finding).
-/
import Reclass.Model.Py
import Reclass.Spec.Closed
import Reclass.Props.C07
namespace Reclass
namespace C19

/-! ## Vocabulary -/

/-- The converted keys are pairwise different under Python equality (earlier against later,
the direction in which `PyDict::set_item` compares). -/
def PyDistinct (es : List (Key × Value)) : Prop :=
  List.Pairwise (fun a b => (Key.toPy a.1).keyEq (Key.toPy b.1) = false) es

/-- Element-wise conversion of a list: same length, same order, each element converted. -/
inductive ListConv : List Value → List PyObj → Prop where
  | nil : ListConv [] []
  | cons {v p l xs} : toPy v = .ok p → ListConv l xs → ListConv (v :: l) (p :: xs)

/-- Entry-wise conversion of a mapping: same length, same order, key converted by `Key.toPy`,
value by `toPy`. -/
inductive EntriesConv : List (Key × Value) → List (PyObj × PyObj) → Prop where
  | nil : EntriesConv [] []
  | cons {k v p es d} : toPy v = .ok p → EntriesConv es d → EntriesConv ((k, v) :: es) ((k.toPy, p) :: d)

/-! ## Helper lemmas -/

theorem ListConv.length_eq {l xs} (h : ListConv l xs) : xs.length = l.length := by
  induction h with
  | nil => rfl
  | cons _ _ ih => simp [ih]

theorem ListConv.get {l xs} (h : ListConv l xs) :
    ∀ (i : Nat) (h1 : i < l.length) (h2 : i < xs.length), toPy l[i] = .ok xs[i] := by
  induction h with
  | nil => intro i h1; simp at h1
  | cons hv _ ih =>
    intro i h1 h2
    cases i with
    | zero => simpa using hv
    | succ i => simpa using ih i (by simpa using h1) (by simpa using h2)

theorem ListConv.append {a b xs ys} (h1 : ListConv a xs) (h2 : ListConv b ys) : ListConv (a ++ b) (xs ++ ys) := by
  induction h1 with
  | nil => exact h2
  | cons hv _ ih => exact .cons hv ih

theorem EntriesConv.length_eq {es d} (h : EntriesConv es d) : d.length = es.length := by
  induction h with
  | nil => rfl
  | cons _ _ ih => simp [ih]

theorem EntriesConv.keys_eq {es d} (h : EntriesConv es d) : d.map Prod.fst = es.map (fun e => e.1.toPy) := by
  induction h with
  | nil => rfl
  | cons _ _ ih => simp [ih]

theorem EntriesConv.mem {es d} (h : EntriesConv es d) :
    ∀ k v, (k, v) ∈ es → ∃ p, toPy v = .ok p ∧ (k.toPy, p) ∈ d := by
  induction h with
  | nil => intro k v hm; simp at hm
  | cons hv _ ih =>
    intro k v hm
    rcases List.mem_cons.1 hm with hm | hm
    · injection hm with hk hv'; subst hk; subst hv'
      exact ⟨_, hv, by simp⟩
    · obtain ⟨p, hp, hd⟩ := ih k v hm
      exact ⟨p, hp, List.mem_cons_of_mem _ hd⟩

theorem EntriesConv.mem_rev {es d} (h : EntriesConv es d) :
    ∀ q p, (q, p) ∈ d → ∃ k v, (k, v) ∈ es ∧ q = k.toPy ∧ toPy v = .ok p := by
  induction h with
  | nil => intro q p hm; simp at hm
  | cons hv _ ih =>
    intro q p hm
    rcases List.mem_cons.1 hm with hm | hm
    · injection hm with hk hv'; subst hk; subst hv'
      exact ⟨_, _, by simp, rfl, hv⟩
    · obtain ⟨k, v, hkv, hq, hp⟩ := ih q p hm
      exact ⟨k, v, List.mem_cons_of_mem _ hkv, hq, hp⟩

theorem toPy_seqB (l : List Value) :
    toPy (.seq l) = bind1 (toPyL l) fun xs => .ok (.list xs) := by
  rw [toPy]; rcases toPyL l with _ | _ <;> rfl

theorem toPy_mapB (es : List (Key × Value)) (ck ok : List Key) :
    toPy (.map es ck ok) = bind1 (toPyEs es []) fun d => .ok (.dict d) := by
  rw [toPy]; rcases toPyEs es [] with _ | _ <;> rfl

theorem toPyL_consB (v : Value) (vs : List Value) :
    toPyL (v :: vs) = bind1 (toPy v) fun x => bind1 (toPyL vs) fun xs => .ok (x :: xs) := by
  rw [toPyL]
  rcases toPy v with _ | _
  · rfl
  dsimp only [bind1]
  rcases toPyL vs with _ | _ <;> rfl

theorem toPyEs_consB (k : Key) (v : Value) (rest : List (Key × Value)) (acc : List (PyObj × PyObj)) :
    toPyEs ((k, v) :: rest) acc = bind1 (toPy v) fun x => toPyEs rest (pyDictSet k.toPy x acc) := by
  rw [toPyEs]; rcases toPy v with _ | _ <;> rfl

theorem toPyL_iff : ∀ (l : List Value) (xs : List PyObj), toPyL l = .ok xs ↔ ListConv l xs
  | [], xs => by
    simp only [toPyL, Except.ok.injEq]
    constructor
    · intro h; subst h; exact .nil
    · intro h; cases h; rfl
  | v :: vs, xs => by
    simp only [toPyL_consB, bind1_ok, toPyL_iff vs]
    constructor
    · rintro ⟨x, h1, ys, h2, h⟩; cases h; exact .cons h1 h2
    · intro h
      cases h with
      | cons hv hl => exact ⟨_, hv, _, hl, rfl⟩

theorem pyDictSet_fresh (k v : PyObj) (acc : List (PyObj × PyObj))
    (h : ∀ a ∈ acc, a.1.keyEq k = false) : pyDictSet k v acc = acc ++ [(k, v)] := by
  induction acc with
  | nil => rfl
  | cons a rest ih =>
    obtain ⟨k', v'⟩ := a
    have h1 : k'.keyEq k = false := h (k', v') (by simp)
    simp only [pyDictSet, h1, Bool.false_eq_true, if_false, List.cons_append]
    rw [ih (fun a ha => h a (List.mem_cons_of_mem _ ha))]

theorem pyDictSet_length_le (k v : PyObj) (acc : List (PyObj × PyObj)) :
    (pyDictSet k v acc).length ≤ acc.length + 1 := by
  induction acc with
  | nil => simp [pyDictSet]
  | cons a rest ih =>
    obtain ⟨k', v'⟩ := a
    simp only [pyDictSet]
    split <;> simp <;> omega

theorem toPyEs_iff : ∀ (es : List (Key × Value)) (acc d : List (PyObj × PyObj)),
    PyDistinct es → (∀ e ∈ es, ∀ a ∈ acc, a.1.keyEq e.1.toPy = false) →
    (toPyEs es acc = .ok d ↔ ∃ d', d = acc ++ d' ∧ EntriesConv es d')
  | [], acc, d, _, _ => by
    constructor
    · intro h; cases h; exact ⟨[], (List.append_nil _).symm, .nil⟩
    · rintro ⟨_, rfl, hc⟩; cases hc; rw [List.append_nil]; rfl
  | (k, v) :: rest, acc, d, hd, ha => by
    have hd' := List.pairwise_cons.1 hd
    have ih := fun x => toPyEs_iff rest (acc ++ [(k.toPy, x)]) d hd'.2 (by
      intro e he a haa
      rcases List.mem_append.1 haa with haa | haa
      · exact ha e (List.mem_cons_of_mem _ he) a haa
      · cases List.mem_singleton.1 haa; exact hd'.1 e he)
    simp only [toPyEs_consB, bind1_ok, ih,
      fun x => pyDictSet_fresh k.toPy x acc (ha (k, v) List.mem_cons_self)]
    constructor
    · rintro ⟨x, h1, d', rfl, hc⟩
      exact ⟨(k.toPy, x) :: d', by simp, .cons h1 hc⟩
    · rintro ⟨_, rfl, hc⟩
      cases hc with
      | cons hv hr => exact ⟨_, hv, _, by simp, hr⟩

theorem toPyEs_acc : ∀ (es : List (Key × Value)) (acc d : List (PyObj × PyObj)),
    PyDistinct es → (∀ e ∈ es, ∀ a ∈ acc, a.1.keyEq e.1.toPy = false) →
    toPyEs es acc = .ok d → ∃ d', d = acc ++ d' ∧ EntriesConv es d' :=
  fun es acc d hd ha => (toPyEs_iff es acc d hd ha).1

theorem toPyEs_acc_of_conv : ∀ (es : List (Key × Value)) (acc d' : List (PyObj × PyObj)),
    PyDistinct es → (∀ e ∈ es, ∀ a ∈ acc, a.1.keyEq e.1.toPy = false) →
    EntriesConv es d' → toPyEs es acc = .ok (acc ++ d') :=
  fun es acc d' hd ha h => (toPyEs_iff es acc _ hd ha).2 ⟨d', rfl, h⟩

/-! ## 1. Scalars -/

/-- Scalars arrive as the corresponding native scalar: null as `None`, a boolean as `bool`
(never as an int), an integer as the same `int` whatever its magnitude, any other number as
`float` (carrying the YAML token), a literal or plain string as `str` with the same text. -/
theorem toPy_scalars (b : Bool) (i : Int) (y j s : Str) :
    toPy .null = .ok .none ∧
    toPy (.bool b) = .ok (.bool b) ∧
    toPy (.num (.int i)) = .ok (.int i) ∧
    toPy (.num (.float y j)) = .ok (.float y) ∧
    toPy (.lit s) = .ok (.str s) ∧
    toPy (.str s) = .ok (.str s) := by
  simp [toPy]

/-- Sequences become lists and mappings become dicts — never anything else. -/
theorem toPy_containers (l : List Value) (es : List (Key × Value)) (ck ok : List Key) (p : PyObj) :
    (toPy (.seq l) = .ok p → ∃ xs, p = .list xs ∧ toPyL l = .ok xs) ∧
    (toPy (.map es ck ok) = .ok p → ∃ d, p = .dict d ∧ toPyEs es [] = .ok d) := by
  rw [toPy_seqB, toPy_mapB, bind1_ok, bind1_ok]
  constructor
  · rintro ⟨xs, h1, h⟩; cases h; exact ⟨xs, rfl, h1⟩
  · rintro ⟨d, h1, h⟩; cases h; exact ⟨d, rfl, h1⟩

/-! ## 2. Totality on plain data -/

mutual
/-- The conversion succeeds on every plain-data value (`Closed`: no unparsed string, no layer
list): its only failure is the `unreachable!()` on a layer list. -/
theorem toPy_total_on_closed : ∀ (v : Value), Closed v → ∃ p, toPy v = .ok p
  | .null, _ => ⟨_, rfl⟩
  | .bool _, _ => ⟨_, rfl⟩
  | .num (.int _), _ => ⟨_, rfl⟩
  | .num (.float _ _), _ => ⟨_, rfl⟩
  | .lit _, _ => ⟨_, rfl⟩
  | .str _, h => h.elim
  | .vl _, h => h.elim
  | .seq l, h => by
    obtain ⟨xs, hx⟩ := toPyL_total_on_closed l h
    exact ⟨.list xs, by simp only [toPy, hx]⟩
  | .map es _ _, h => by
    obtain ⟨d, hd⟩ := toPyEs_total_on_closed es [] h
    exact ⟨.dict d, by simp only [toPy, hd]⟩
theorem toPyL_total_on_closed : ∀ (l : List Value), ClosedL l → ∃ xs, toPyL l = .ok xs
  | [], _ => ⟨_, rfl⟩
  | v :: vs, h => by
    obtain ⟨p, hp⟩ := toPy_total_on_closed v h.1
    obtain ⟨xs, hx⟩ := toPyL_total_on_closed vs h.2
    exact ⟨p :: xs, by simp only [toPyL, hp, hx]⟩
theorem toPyEs_total_on_closed : ∀ (es : List (Key × Value)) (acc : List (PyObj × PyObj)),
    ClosedEs es → ∃ d, toPyEs es acc = .ok d
  | [], acc, _ => ⟨acc, rfl⟩
  | (k, v) :: rest, acc, h => by
    obtain ⟨p, hp⟩ := toPy_total_on_closed v h.1
    obtain ⟨d, hd⟩ := toPyEs_total_on_closed rest (pyDictSet k.toPy p acc) h.2
    exact ⟨d, by simp only [toPyEs, hp, hd]⟩
end

mutual
/-- The only error the conversion can produce is the panic on a layer list. -/
theorem toPy_error_only_vl : ∀ (v : Value) (e : Err), toPy v = .error e → e = .panic .pyVl
  | .null => ErrIn.ok
  | .bool _ => ErrIn.ok
  | .num (.int _) => ErrIn.ok
  | .num (.float _ _) => ErrIn.ok
  | .lit _ => ErrIn.ok
  | .str _ => ErrIn.ok
  | .vl _ => ErrIn.error rfl
  | .seq l => by
    rw [toPy_seqB]
    exact ErrIn.bind1 (toPyL_error_only_vl l) fun _ => ErrIn.ok
  | .map es _ _ => by
    rw [toPy_mapB]
    exact ErrIn.bind1 (toPyEs_error_only_vl es []) fun _ => ErrIn.ok
theorem toPyL_error_only_vl : ∀ (l : List Value) (e : Err), toPyL l = .error e → e = .panic .pyVl
  | [] => ErrIn.ok
  | v :: vs => by
    rw [toPyL_consB]
    exact ErrIn.bind1 (toPy_error_only_vl v) fun _ =>
      ErrIn.bind1 (toPyL_error_only_vl vs) fun _ => ErrIn.ok
theorem toPyEs_error_only_vl : ∀ (es : List (Key × Value)) (acc : List (PyObj × PyObj)) (e : Err),
    toPyEs es acc = .error e → e = .panic .pyVl
  | [], _ => ErrIn.ok
  | (k, v) :: rest, acc => by
    rw [toPyEs_consB]
    exact ErrIn.bind1 (toPy_error_only_vl v) fun _ => toPyEs_error_only_vl rest _
end

/-- Rendered parameters always convert: for well-formed input, whatever `render` returns
successfully is accepted by `as_py_obj`, so the `unreachable!()` there is never reached for
rendered data. -/
theorem render_toPy_total {n : Nat} {m out : Mapping} (hm : WF m.toValue)
    (h : renderParamsF n m = .ok out) : ∃ p, toPy out.toValue = .ok p :=
  toPy_total_on_closed _ (C07.render_closed hm h).1

/-- … and what arrives is a dict. -/
theorem render_toPy_dict {n : Nat} {m out : Mapping} (hm : WF m.toValue)
    (h : renderParamsF n m = .ok out) : ∃ d, toPy out.toValue = .ok (.dict d) := by
  obtain ⟨p, hp⟩ := render_toPy_total hm h
  obtain ⟨d, hd, _⟩ := (toPy_containers [] out.es out.ck out.ok p).2 hp
  exact ⟨d, hd ▸ hp⟩

/-! ## 3. Lists -/

/-- A sequence arrives as a list of the same length whose `i`-th element is the conversion of
the `i`-th element of the sequence. -/
theorem toPy_list_order (l : List Value) (xs : List PyObj) (h : toPy (.seq l) = .ok (.list xs)) :
    xs.length = l.length ∧
    ∀ (i : Nat) (h1 : i < l.length) (h2 : i < xs.length), toPy l[i] = .ok xs[i] := by
  obtain ⟨ys, hy, hl⟩ := (toPy_containers l [] [] [] _).1 h
  injection hy with hy; subst hy
  have hc := (toPyL_iff l xs).1 hl
  exact ⟨hc.length_eq, hc.get⟩

/-- Conversion of a concatenation is the concatenation of the conversions. -/
theorem toPyL_append (a b : List Value) (xs ys : List PyObj)
    (ha : toPyL a = .ok xs) (hb : toPyL b = .ok ys) : toPyL (a ++ b) = .ok (xs ++ ys) :=
  (toPyL_iff _ _).2 (((toPyL_iff _ _).1 ha).append ((toPyL_iff _ _).1 hb))

/-! ## 4. Dicts -/

/-- **Faithful dicts.** If the keys of a mapping stay pairwise different as Python objects,
the dict has exactly one entry per mapping entry, in the same order: the keys are the
converted keys in order, and every entry `(k, v)` of the mapping is present as
`(k.toPy, toPy v)`. Nothing is lost, nothing is added. -/
theorem toPy_dict_faithful (es : List (Key × Value)) (d : List (PyObj × PyObj))
    (hd : PyDistinct es) (h : toPyEs es [] = .ok d) :
    d.map Prod.fst = es.map (fun e => e.1.toPy) ∧
    d.length = es.length ∧
    (∀ k v, (k, v) ∈ es → ∃ p, toPy v = .ok p ∧ (k.toPy, p) ∈ d) ∧
    (∀ q p, (q, p) ∈ d → ∃ k v, (k, v) ∈ es ∧ q = k.toPy ∧ toPy v = .ok p) ∧
    EntriesConv es d := by
  obtain ⟨d', h1, h2⟩ := toPyEs_acc es [] d hd (by intro e _ a ha; simp at ha) h
  simp only [List.nil_append] at h1; subst h1
  exact ⟨h2.keys_eq, h2.length_eq, h2.mem, h2.mem_rev, h2⟩

/-- The same from the other side: with distinct keys, if every value converts, the dict is
the entry-wise conversion. With `f` giving the converted values this is
`toPyEs es [] = .ok (es.map fun (k, v) => (k.toPy, f v))`. -/
theorem toPyEs_of_conv (es : List (Key × Value)) (f : Value → PyObj)
    (hd : PyDistinct es) (hf : ∀ e ∈ es, toPy e.2 = .ok (f e.2)) :
    toPyEs es [] = .ok (es.map fun e => (e.1.toPy, f e.2)) := by
  have hc : EntriesConv es (es.map fun e => (e.1.toPy, f e.2)) := by
    induction es with
    | nil => exact .nil
    | cons e rest ih =>
      obtain ⟨k, v⟩ := e
      exact .cons (hf (k, v) (by simp))
        (ih (List.pairwise_cons.1 hd).2 (fun e he => hf e (List.mem_cons_of_mem _ he)))
  simpa using toPyEs_acc_of_conv es [] _ hd (by intro e _ a ha; simp at ha) hc

/-- In any case (distinct keys or not) a dict never has more entries than the mapping. -/
theorem toPyEs_length_le : ∀ (es : List (Key × Value)) (acc d : List (PyObj × PyObj)),
    toPyEs es acc = .ok d → d.length ≤ acc.length + es.length
  | [], acc, d, h => by simp only [toPyEs, Except.ok.injEq] at h; simp [h]
  | (k, v) :: rest, acc, d, h => by
    simp only [toPyEs] at h
    split at h
    next => cases h
    next x _ =>
      have := toPyEs_length_le rest _ d h
      have := pyDictSet_length_le k.toPy x acc
      simp only [List.length_cons]; omega

/-! ## 5. Which keys collide -/

theorem pyKeyEq_iff (p q : PyObj) :
    p.keyEq q = true ↔
      (∃ x, p.keyNum = some x ∧ q.keyNum = some x) ∨ (∃ s, p = .str s ∧ q = .str s) ∨
      (p = .none ∧ q = .none) ∨ (∃ t, p = .float t ∧ q = .float t) := by
  constructor
  · intro h
    unfold PyObj.keyEq at h
    split at h
    · next x y hp hq => exact .inl ⟨x, hp, by rw [hq, eq_of_beq h]⟩
    · split at h
      · exact .inr (.inr (.inl ⟨rfl, rfl⟩))
      · exact .inr (.inl ⟨_, rfl, by rw [eq_of_beq h]⟩)
      · exact .inr (.inr (.inr ⟨_, rfl, by rw [eq_of_beq h]⟩))
      · cases h
    · cases h
  · rintro (⟨x, hp, hq⟩ | ⟨s, rfl, rfl⟩ | ⟨rfl, rfl⟩ | ⟨t, rfl, rfl⟩)
    · simp only [PyObj.keyEq, hp, hq, beq_self_eq_true]
    · exact beq_self_eq_true s
    · rfl
    · exact beq_self_eq_true t

/-- Python equality on converted keys, spelled out: two keys are one dict key iff both are
numeric-like (bool or int) with the same numeric value (`True == 1`, `False == 0`), or both
have the same text (a `String` key and a `Literal` key with the same text are the same `str`),
or both are null, or both are floats with the same token. -/
theorem keyEq_iff (a b : Key) :
    (Key.toPy a).keyEq (Key.toPy b) = true ↔
      (∃ x, (Key.toPy a).keyNum = some x ∧ (Key.toPy b).keyNum = some x) ∨
      (∃ s, Key.toPy a = .str s ∧ Key.toPy b = .str s) ∨
      (Key.toPy a = .none ∧ Key.toPy b = .none) ∨
      (∃ t, Key.toPy a = .float t ∧ Key.toPy b = .float t) :=
  pyKeyEq_iff _ _

theorem keyEq_refl (a : Key) : (Key.toPy a).keyEq (Key.toPy a) = true := by
  rcases a with s | s | (_ | _) | (i | ⟨y, j⟩) | _ <;> simp [Key.toPy, PyObj.keyEq, PyObj.keyNum]

/-- **Recorded finding (key collision).** The mapping `{1: a, true: b}` has two entries, the
dict has one: Python's `True == 1`, so `set_item` overwrites the value of key `1` and keeps
the key object `1`. The entry `true ↦ b` is lost as such, and the value `a` is lost
altogether. Hence `PyDistinct` cannot be dropped from `toPy_dict_faithful`. -/
theorem py_key_collision (a b : Str) :
    toPyEs [(.num (.int 1), .lit a), (.bool true, .lit b)] [] = .ok [(.int 1, .str b)] ∧
    ¬ PyDistinct [(.num (.int 1), .lit a), (.bool true, .lit b)] ∧
    (keys [(.num (.int 1), .lit a), (.bool true, .lit b)]).Nodup := by
  refine ⟨rfl, fun h => ?_, show [Key.num (.int 1), Key.bool true].Nodup by decide⟩
  exact Bool.noConfusion (show true = false from List.rel_of_pairwise_cons h (List.mem_singleton_self _))

/-- The same for a `String` key and a `Literal` key with the same text. -/
theorem py_key_collision_lit (s a b : Str) :
    toPyEs [(.str s, .lit a), (.lit s, .lit b)] [] = .ok [(.str s, .str b)] ∧
    (keys [(.str s, .lit a), (.lit s, .lit b)]).Nodup := by
  simp [toPyEs, toPy, pyDictSet, Key.toPy, PyObj.keyEq, PyObj.keyNum, keys]

/-! ## 6. String-keyed mappings are always faithful -/

/-- Keys with different names stay different in Python if they all are of a kind `S` on which
`Key.toPy` followed by Python equality is injective. -/
theorem pyDistinct_of_inj (S : Key → Prop)
    (hinj : ∀ a b, S a → S b → a ≠ b → (Key.toPy a).keyEq (Key.toPy b) = false)
    (es : List (Key × Value)) (hn : (keys es).Nodup) (hs : ∀ e ∈ es, S e.1) : PyDistinct es := by
  have hp : List.Pairwise (fun a b : Key × Value => a.1 ≠ b.1) es := by
    simpa [keys, List.Nodup, List.pairwise_map] using hn
  exact hp.imp_of_mem fun ha hb hne => hinj _ _ (hs _ ha) (hs _ hb) hne

/-- Distinct `String` keys stay distinct in Python. -/
theorem str_keys_distinct (es : List (Key × Value)) (hn : (keys es).Nodup)
    (hs : ∀ e ∈ es, ∃ s, e.1 = .str s) : PyDistinct es := by
  refine pyDistinct_of_inj (fun k => ∃ s, k = .str s) ?_ es hn hs
  rintro _ _ ⟨s, rfl⟩ ⟨t, rfl⟩ hne
  exact beq_eq_false_iff_ne.2 fun h => hne (congrArg Key.str h)

theorem plain_cases {k : Key}
    (h : (∀ b, k ≠ .bool b) ∧ (∀ s, k ≠ .lit s) ∧ (∀ y j, k ≠ .num (.float y j))) :
    (∃ s, k = .str s) ∨ (∃ i, k = .num (.int i)) ∨ k = .null := by
  rcases k with s | s | c | (i | ⟨y, j⟩) | _
  · exact .inl ⟨s, rfl⟩
  · exact absurd rfl (h.2.1 s)
  · exact absurd rfl (h.1 c)
  · exact .inr (.inl ⟨i, rfl⟩)
  · exact absurd rfl (h.2.2 y j)
  · exact .inr (.inr rfl)

/-- More generally: keys that are all strings, or all integers, … — any set of keys on which
`Key.toPy` followed by Python equality is injective. Stated for the common case "no booleans
and no literal keys": then model-distinct keys are Python-distinct. -/
theorem plain_keys_distinct (es : List (Key × Value)) (hn : (keys es).Nodup)
    (hs : ∀ e ∈ es, (∀ b, e.1 ≠ .bool b) ∧ (∀ s, e.1 ≠ .lit s) ∧ (∀ y j, e.1 ≠ .num (.float y j))) :
    PyDistinct es := by
  refine pyDistinct_of_inj
    (fun k => (∀ b, k ≠ .bool b) ∧ (∀ s, k ≠ .lit s) ∧ (∀ y j, k ≠ .num (.float y j))) ?_ es hn hs
  intro a b ha hb hne
  -- strings, integers and null: equal only within a kind, and there by the payload
  rcases plain_cases ha with ⟨s, rfl⟩ | ⟨i, rfl⟩ | rfl
  · rcases plain_cases hb with ⟨t, rfl⟩ | ⟨j, rfl⟩ | rfl
    · exact beq_eq_false_iff_ne.2 fun h => hne (congrArg Key.str h)
    · rfl
    · rfl
  · rcases plain_cases hb with ⟨t, rfl⟩ | ⟨j, rfl⟩ | rfl
    · rfl
    · exact beq_eq_false_iff_ne.2 fun h => hne (congrArg (fun i => Key.num (.int i)) h)
    · rfl
  · rcases plain_cases hb with ⟨t, rfl⟩ | ⟨j, rfl⟩ | rfl
    · rfl
    · rfl
    · exact absurd rfl hne

/-- A well-formed mapping with string keys only converts faithfully: combined statement of
`str_keys_distinct` and `toPy_dict_faithful` on `WF`. -/
theorem wf_str_map_faithful (es : List (Key × Value)) (ck ok : List Key) (d : List (PyObj × PyObj))
    (hw : WF (.map es ck ok)) (hs : ∀ e ∈ es, ∃ s, e.1 = .str s)
    (h : toPy (.map es ck ok) = .ok (.dict d)) :
    d.map Prod.fst = es.map (fun e => e.1.toPy) ∧ d.length = es.length ∧
    (∀ k v, (k, v) ∈ es → ∃ p, toPy v = .ok p ∧ (k.toPy, p) ∈ d) := by
  simp only [WF] at hw
  obtain ⟨d', hd', hes⟩ := (toPy_containers [] es ck ok _).2 h
  injection hd' with hd'; subst hd'
  have := toPy_dict_faithful es d (str_keys_distinct es hw.2 hs) hes
  exact ⟨this.1, this.2.1, this.2.2.1⟩

/-! ## 7. The whole value at once -/

mutual
/-- The native object a value *should* arrive as: the same tree with every constructor replaced
by its Python counterpart, every mapping entry kept. (No `set_item` here: this is the
specification, `toPy` is the code.) -/
def pyOf : Value → PyObj
  | .null => .none
  | .bool b => .bool b
  | .num (.int i) => .int i
  | .num (.float y _) => .float y
  | .str s => .str s
  | .lit s => .str s
  | .seq l => .list (pyOfL l)
  | .vl l => .list (pyOfL l)
  | .map es _ _ => .dict (pyOfEs es)
def pyOfL : List Value → List PyObj
  | [] => []
  | v :: vs => pyOf v :: pyOfL vs
def pyOfEs : List (Key × Value) → List (PyObj × PyObj)
  | [] => []
  | (k, v) :: es => (k.toPy, pyOf v) :: pyOfEs es
end

mutual
/-- In every mapping anywhere inside the value the keys are pairwise different in Python. -/
def DistinctKeys : Value → Prop
  | .map es _ _ => PyDistinct es ∧ DistinctKeysEs es
  | .seq l => DistinctKeysL l
  | .vl l => DistinctKeysL l
  | _ => True
def DistinctKeysL : List Value → Prop
  | [] => True
  | v :: vs => DistinctKeys v ∧ DistinctKeysL vs
def DistinctKeysEs : List (Key × Value) → Prop
  | [] => True
  | (_, v) :: es => DistinctKeys v ∧ DistinctKeysEs es
end

mutual
/-- Every key of every mapping anywhere inside the value is a `String` key. -/
def StrKeyed : Value → Prop
  | .map es _ _ => StrKeyedEs es
  | .seq l => StrKeyedL l
  | .vl l => StrKeyedL l
  | _ => True
def StrKeyedL : List Value → Prop
  | [] => True
  | v :: vs => StrKeyed v ∧ StrKeyedL vs
def StrKeyedEs : List (Key × Value) → Prop
  | [] => True
  | (k, v) :: es => (∃ s, k = .str s) ∧ StrKeyed v ∧ StrKeyedEs es
end

theorem pyOfL_length (l : List Value) : (pyOfL l).length = l.length := by
  induction l with
  | nil => rfl
  | cons v vs ih => simp [pyOfL, ih]

theorem pyOfEs_keys (es : List (Key × Value)) : (pyOfEs es).map Prod.fst = es.map (fun e => e.1.toPy) := by
  induction es with
  | nil => rfl
  | cons e rest ih => obtain ⟨k, v⟩ := e; simp [pyOfEs, ih]

theorem strKeyedEs_mem (es : List (Key × Value)) (h : StrKeyedEs es) : ∀ e ∈ es, ∃ s, e.1 = .str s := by
  induction es with
  | nil => intro e he; simp at he
  | cons e rest ih =>
    obtain ⟨k, v⟩ := e
    simp only [StrKeyedEs] at h
    intro e he
    rcases List.mem_cons.1 he with he | he
    · subst he; exact h.1
    · exact ih h.2.2 e he

mutual
/-- **Whole-value faithfulness.** Plain data in which no mapping has two keys that Python
identifies arrives as exactly the specified native object `pyOf v`: dicts with all entries in
mapping order, lists in order, scalars as in `toPy_scalars`, at every depth. -/
theorem toPy_eq_pyOf : ∀ (v : Value), Closed v → DistinctKeys v → toPy v = .ok (pyOf v)
  | .null, _, _ => rfl
  | .bool _, _, _ => rfl
  | .num (.int _), _, _ => rfl
  | .num (.float _ _), _, _ => rfl
  | .lit _, _, _ => rfl
  | .str _, h, _ => h.elim
  | .vl _, h, _ => h.elim
  | .seq l, h, hd => by
    simp only [toPy, pyOf, (toPyL_iff _ _).2 (listConv_pyOfL l h hd)]
  | .map es _ _, h, hd => by
    have := toPyEs_acc_of_conv es [] _ hd.1 (fun _ _ _ ha => (List.not_mem_nil ha).elim) (entriesConv_pyOfEs es h hd.2)
    simp only [toPy, pyOf, this, List.nil_append]
theorem listConv_pyOfL : ∀ (l : List Value), ClosedL l → DistinctKeysL l → ListConv l (pyOfL l)
  | [], _, _ => .nil
  | v :: vs, h, hd => .cons (toPy_eq_pyOf v h.1 hd.1) (listConv_pyOfL vs h.2 hd.2)
theorem entriesConv_pyOfEs : ∀ (es : List (Key × Value)), ClosedEs es → DistinctKeysEs es →
    EntriesConv es (pyOfEs es)
  | [], _, _ => .nil
  | (_, v) :: rest, h, hd => .cons (toPy_eq_pyOf v h.1 hd.1) (entriesConv_pyOfEs rest h.2 hd.2)
end

mutual
/-- Well-formed values (keys unique in every mapping) with string keys only have Python-distinct
keys everywhere. -/
theorem distinctKeys_of_strKeyed : ∀ (v : Value), WF v → StrKeyed v → DistinctKeys v
  | .null, _, _ => trivial
  | .bool _, _, _ => trivial
  | .num _, _, _ => trivial
  | .lit _, _, _ => trivial
  | .str _, _, _ => trivial
  | .vl l, h, hs => distinctKeysL_of_strKeyed l h hs
  | .seq l, h, hs => distinctKeysL_of_strKeyed l h hs
  | .map es _ _, h, hs =>
    ⟨str_keys_distinct es h.2 (strKeyedEs_mem es hs), distinctKeysEs_of_strKeyed es h.1 hs⟩
theorem distinctKeysL_of_strKeyed : ∀ (l : List Value), WFL l → StrKeyedL l → DistinctKeysL l
  | [], _, _ => trivial
  | v :: vs, h, hs =>
    ⟨distinctKeys_of_strKeyed v h.1 hs.1, distinctKeysL_of_strKeyed vs h.2 hs.2⟩
theorem distinctKeysEs_of_strKeyed : ∀ (es : List (Key × Value)), WFEs es → StrKeyedEs es → DistinctKeysEs es
  | [], _, _ => trivial
  | (_, v) :: rest, h, hs =>
    ⟨distinctKeys_of_strKeyed v h.2.1 hs.2.1, distinctKeysEs_of_strKeyed rest h.2.2 hs.2.2⟩
end

/-- **End to end.** Rendered parameters whose mapping keys are all strings (the ordinary case)
arrive through the Python API as exactly `pyOf` of the rendered value: no panic, every mapping
a dict with all its entries in order, every list a list in order, every scalar the native
scalar. (`WF` of the input is the hypothesis of C07; the string-key condition is on the
output, where C07 also gives `WF`.) -/
theorem render_toPy_faithful {n : Nat} {m out : Mapping} (hm : WF m.toValue)
    (h : renderParamsF n m = .ok out) (hs : StrKeyed out.toValue) :
    toPy out.toValue = .ok (pyOf out.toValue) := by
  obtain ⟨hc, hw⟩ := C07.render_closed hm h
  exact toPy_eq_pyOf _ hc (distinctKeys_of_strKeyed _ hw hs)

/-! ### Non-vacuity -/

example : toPy (.map [(.str "a".toList, .seq [.num (.int 100000000000000000000), .bool true, .null]),
                      (.str "b".toList, .map [(.str "c".toList, .lit "x".toList)] [] [])] [] [])
    = .ok (.dict [(.str "a".toList, .list [.int 100000000000000000000, .bool true, .none]),
                  (.str "b".toList, .dict [(.str "c".toList, .str "x".toList)])]) := by
  simp [toPy, toPyL, toPyEs, pyDictSet, Key.toPy, PyObj.keyEq, PyObj.keyNum]

example : toPy (.seq [.vl [.null]]) = .error (.panic .pyVl) := by simp [toPy, toPyL]

example : PyDistinct [(.str "a".toList, .null), (.str "b".toList, .null), (.num (.int 1), .null)] := by
  unfold PyDistinct; decide +kernel

example : Closed (.map [(.str "a".toList, .seq [.lit "x".toList])] [] []) := by simp [Closed, ClosedEs, ClosedL]

example : (Key.toPy (.bool false)).keyEq (Key.toPy (.num (.int 0))) = true := by decide

example : (Key.toPy (.str "1".toList)).keyEq (Key.toPy (.num (.int 1))) = false := by decide

example : DistinctKeys (.map [(.str "a".toList, .map [(.num (.int 1), .null), (.bool false, .null)] [] [])] [] []) := by
  simp only [DistinctKeys, DistinctKeysEs, PyDistinct]; decide +kernel

example : ¬ DistinctKeys (.seq [.map [(.num (.int 1), .null), (.bool true, .null)] [] []]) := by
  simp only [DistinctKeys, DistinctKeysL, DistinctKeysEs, PyDistinct]; decide +kernel

example : StrKeyed (.map [(.str "a".toList, .seq [.map [(.str "b".toList, .null)] [] []])] [] []) := by
  simp [StrKeyed, StrKeyedEs, StrKeyedL]

end C19
end Reclass
