/-
  C15b — C15 end to end: "the node renders identically if a relative include name is replaced by
  the absolute name it denotes".

  What the model does (`NodeM.ofSrc` = `Node::from_str`): *every* entry of the `classes` list of a
  class or node file — with or without a `${…}` reference in it — is passed through
  `absClassName loc ·` at parse time (`loc` = directory of the class; `none` for a node), after a
  first deduplication on the raw spellings and followed by a second one.  Entries that do not start
  with a dot are unchanged by this.  (When the walk later resolves an entry, `readClass` applies
  `absClassName loc ·` once more to the resolved name.)

  Twin inventory.  `twinInvBy f r` rewrites every include entry `c` of every readable class file
  (located at `loc`) and node file (`loc = none`) to `f loc c`; if `f` never changes the absolute
  name an entry denotes (`TwinOK`), every node renders identically in `r` and in `twinInvBy f r`.
  An entry is replaced by `absClassName loc c` only if that name is stable, i.e. does not itself
  start with a dot: replacing outright needs `AbsStable r`, and without it the statement is false
  for the model's inventories (counterexample at the end).
-/
import Reclass.Lemmas.E2E2L
import Reclass.Props.C15
namespace Reclass
namespace C15
open E2E2

/-! ### One file -/

/-- Rewriting the include entries of a file by any `f` that does not change the absolute name an
entry denotes gives the same parsed node (class list in the same order, applications, parameters).
Generalises `ofSrc_twin`. -/
theorem ofSrc_map_entries (loc : Option (List Str)) (src : ClassSrc) (f : Str → Str)
    (hf : ∀ c ∈ src.classes, absClassName loc (f c) = absClassName loc c) :
    NodeM.ofSrc loc { src with classes := src.classes.map f } = NodeM.ofSrc loc src := by
  rw [ofSrc_eq, ofSrc_eq]
  simp only
  rw [nub_map_nub (absClassName loc) (src.classes.map f) [] [] (by simp),
    nub_map_nub (absClassName loc) src.classes [] [] (by simp), List.map_map,
    List.map_congr_left (g := absClassName loc) (fun c hc => by simpa using hf c hc)]

/-- The twin spelling of an include entry, references included: the absolute name it denotes at
`loc`, if that name is stable (does not start with a dot); otherwise the entry itself. -/
def twinEntryAll (loc : Option (List Str)) (c : Str) : Str :=
  if (absClassName loc c).head? = some '.' then c else absClassName loc c

/-- **The twin spelling of an include entry**: an entry that contains no reference marker `${` is
replaced by the absolute name it denotes at `loc` (if stable); entries with references are kept.
(An entry that does not start with a dot denotes itself, so only dotted entries change:
`twinEntry_of_not_dot`.) -/
def twinEntry (loc : Option (List Str)) (c : Str) : Str :=
  if strContains c Extracted.classRefMarker.toList then c else twinEntryAll loc c

theorem twinEntryAll_of_not_dot (loc : Option (List Str)) {c : Str} (h : c.head? ≠ some '.') :
    twinEntryAll loc c = c := by
  unfold twinEntryAll
  rw [abs_id_on_absolute loc c h]
  simp

theorem twinEntry_of_not_dot (loc : Option (List Str)) {c : Str} (h : c.head? ≠ some '.') :
    twinEntry loc c = c := by
  unfold twinEntry
  rw [twinEntryAll_of_not_dot loc h]
  simp

/-- A relative entry without reference whose absolute form is stable is replaced by exactly
`absClassName loc c` (e.g. `abs_relative`: the kept directories, then the rest of the name). -/
theorem twinEntry_eq_abs (loc : Option (List Str)) {c : Str}
    (hm : strContains c Extracted.classRefMarker.toList = false)
    (hs : (absClassName loc c).head? ≠ some '.') : twinEntry loc c = absClassName loc c := by
  simp [twinEntry, twinEntryAll, hm, hs]

theorem twinEntryAll_eq_abs (loc : Option (List Str)) {c : Str}
    (hs : (absClassName loc c).head? ≠ some '.') : twinEntryAll loc c = absClassName loc c := by
  simp [twinEntryAll, hs]

/-- The twin spelling denotes the same class. -/
theorem abs_twinEntryAll (loc : Option (List Str)) (c : Str) :
    absClassName loc (twinEntryAll loc c) = absClassName loc c := by
  unfold twinEntryAll
  by_cases h : (absClassName loc c).head? = some '.'
  · simp only [h, if_true]
  · simp only [h, if_false]; exact abs_idempotent loc c h

theorem abs_twinEntry (loc : Option (List Str)) (c : Str) :
    absClassName loc (twinEntry loc c) = absClassName loc c := by
  unfold twinEntry
  split
  · rfl
  · exact abs_twinEntryAll loc c

def twinSrc (loc : Option (List Str)) (src : ClassSrc) : ClassSrc :=
  { src with classes := src.classes.map (twinEntry loc) }

/-- **Twin file, unconditionally**: the twin of a file parses to the same node. -/
theorem ofSrc_twinSrc (loc : Option (List Str)) (src : ClassSrc) :
    NodeM.ofSrc loc (twinSrc loc src) = NodeM.ofSrc loc src :=
  ofSrc_map_entries loc src _ fun c _ => abs_twinEntry loc c

/-! ### The twin inventory -/

def twinFile (f : Str → Str) : FileRes → FileRes
  | .ok src => .ok { src with classes := src.classes.map f }
  | .bad w => .bad w

/-- Rewrite every include entry `c` of every readable class file (at its location `loc`) and of
every readable node file (`loc = none`) to `f loc c`; names, paths, locations, the config and
unreadable files are unchanged. -/
def twinInvBy (f : Option (List Str) → Str → Str) (r : Inv) : Inv :=
  { r with
    classes := r.classes.map fun x => (x.1, x.2.1, twinFile (f (some x.2.1.loc)) x.2.2),
    nodes := r.nodes.map fun x => (x.1, x.2.1, twinFile (f none) x.2.2) }

/-- **The twin inventory**: all class files and node files replaced by their twins
(`twinSrc`: relative entries without references replaced by the absolute names they denote). -/
def twinInv (r : Inv) : Inv := twinInvBy twinEntry r

/-- Entries with references made absolute as well. -/
def twinInvAll (r : Inv) : Inv := twinInvBy twinEntryAll r

/-- Every entry replaced by `absClassName loc ·`, stable or not. -/
def twinInvRaw (r : Inv) : Inv := twinInvBy absClassName r

/-- `f` does not change the absolute name denoted by any include entry of any file of `r`. -/
def TwinOK (f : Option (List Str) → Str → Str) (r : Inv) : Prop :=
  (∀ x ∈ r.classes, ∀ src, x.2.2 = .ok src → ∀ c ∈ src.classes,
    absClassName (some x.2.1.loc) (f (some x.2.1.loc) c) = absClassName (some x.2.1.loc) c) ∧
  (∀ x ∈ r.nodes, ∀ src, x.2.2 = .ok src → ∀ c ∈ src.classes,
    absClassName none (f none c) = absClassName none c)

theorem twinOK_of_forall {f : Option (List Str) → Str → Str}
    (hf : ∀ loc c, absClassName loc (f loc c) = absClassName loc c) (r : Inv) : TwinOK f r :=
  ⟨fun _ _ _ _ c _ => hf _ c, fun _ _ _ _ c _ => hf _ c⟩

theorem findEntity_twin (f : Option (List Str) → Str → Str) (locOf : EntityInfo → Option (List Str))
    (name : Str) (l : List (Str × EntityInfo × FileRes)) :
    findEntity name (l.map fun x => (x.1, x.2.1, twinFile (f (locOf x.2.1)) x.2.2)) =
      (findEntity name l).map fun e => (e.1, twinFile (f (locOf e.1)) e.2) :=
  findEntity_map (fun info fr => twinFile (f (locOf info)) fr) name l

theorem readClass_twinBy {f : Option (List Str) → Str → Str} {r : Inv} (h : TwinOK f r)
    (loc : Option (List Str)) (c : Str) :
    readClass (twinInvBy f r) loc c = readClass r loc c := by
  unfold readClass
  simp only [twinInvBy]
  rw [findEntity_twin f (fun i => some i.loc)]
  cases hfe : findEntity (absClassName loc c) r.classes with
  | none => rfl
  | some e =>
    obtain ⟨info, (src | w)⟩ := e
    · simp only [Option.map_some, twinFile]
      rw [ofSrc_map_entries (some info.loc) src _
        (h.1 _ (findEntity_some_mem hfe) src rfl)]
    · rfl

/-- **General twin theorem.**  If `f` never changes the absolute name an entry denotes, every
node renders identically in `r` and in the inventory with all entries rewritten by `f`. -/
theorem renderNode_twinBy {f : Option (List Str) → Str → Str} {r : Inv} (h : TwinOK f r)
    (fuel : Nat) (name : Str) :
    renderNode fuel r name = renderNode fuel (twinInvBy f r) name := by
  rw [renderNode_eq, renderNode_eq]
  have hn : findEntity name (twinInvBy f r).nodes =
      (findEntity name r.nodes).map fun e => (e.1, twinFile (f none) e.2) :=
    findEntity_twin f (fun _ => none) name r.nodes
  rw [hn]
  cases hfe : findEntity name r.nodes with
  | none => rfl
  | some e =>
    obtain ⟨info, (src | w)⟩ := e
    · simp only [Option.map_some, twinFile]
      rw [renderNodeSrc_congr (r := r) (r' := twinInvBy f r) rfl
        (fun loc c => (readClass_twinBy h loc c).symm)]
      exact renderNodeSrc_src_congr
        (ofSrc_map_entries none src _ (h.2 _ (findEntity_some_mem hfe) src rfl)).symm ..
    · rfl

/-- **C15, end to end.**  For every inventory, every node and every fuel: the node renders
identically (same parameters, classes, applications, metadata — or the same error) when in every
class file and node file each relative include without reference is replaced by the absolute
name it denotes. -/
theorem renderNode_twin (fuel : Nat) (r : Inv) (name : Str) :
    renderNode fuel r name = renderNode fuel (twinInv r) name :=
  renderNode_twinBy (twinOK_of_forall abs_twinEntry r) fuel name

/-- The same with the relative entries that contain references made absolute, too. -/
theorem renderNode_twinAll (fuel : Nat) (r : Inv) (name : Str) :
    renderNode fuel r name = renderNode fuel (twinInvAll r) name :=
  renderNode_twinBy (twinOK_of_forall abs_twinEntryAll r) fuel name

theorem twinInv_class_files (r : Inv) :
    (twinInv r).classes = r.classes.map fun x =>
      (x.1, x.2.1, match x.2.2 with
        | .ok src => .ok (twinSrc (some x.2.1.loc) src)
        | .bad w => .bad w) := by
  unfold twinInv twinInvBy
  simp only
  apply List.map_congr_left
  intro x _
  rcases x with ⟨n, i, (src | w)⟩ <;> rfl

theorem twinInv_node_files (r : Inv) :
    (twinInv r).nodes = r.nodes.map fun x =>
      (x.1, x.2.1, match x.2.2 with
        | .ok src => .ok (twinSrc none src)
        | .bad w => .bad w) := by
  unfold twinInv twinInvBy
  simp only
  apply List.map_congr_left
  intro x _
  rcases x with ⟨n, i, (src | w)⟩ <;> rfl

/-! ### Unconditional replacement needs stability -/

/-- No include entry of any file of `r` denotes an absolute name that starts with a dot. -/
def AbsStable (r : Inv) : Prop :=
  (∀ x ∈ r.classes, ∀ src, x.2.2 = .ok src → ∀ c ∈ src.classes,
    (absClassName (some x.2.1.loc) c).head? ≠ some '.') ∧
  (∀ x ∈ r.nodes, ∀ src, x.2.2 = .ok src → ∀ c ∈ src.classes,
    (absClassName none c).head? ≠ some '.')

/-- With `AbsStable`, every entry may be replaced by `absClassName loc ·` outright. -/
theorem renderNode_twinRaw {r : Inv} (h : AbsStable r) (fuel : Nat) (name : Str) :
    renderNode fuel r name = renderNode fuel (twinInvRaw r) name :=
  renderNode_twinBy
    ⟨fun x hx src hs c hc => abs_idempotent _ c (h.1 x hx src hs c hc),
     fun x hx src hs c hc => abs_idempotent _ c (h.2 x hx src hs c hc)⟩ fuel name

/-- The absolute form of any name starts with a dot only below a top-level directory whose name
is empty or starts with a dot. -/
theorem abs_head_ne_dot (loc : Option (List Str))
    (hloc : ∀ s, (loc.getD []).head? = some s → s ≠ [] ∧ s.head? ≠ some '.') (c : Str) :
    (absClassName loc c).head? ≠ some '.' := by
  by_cases hd : c.head? = some '.'
  · obtain ⟨cs, rfl⟩ : ∃ cs, c = '.' :: cs := by
      cases c with
      | nil => simp at hd
      | cons x xs => simp only [List.head?_cons, Option.some.injEq] at hd; exact ⟨xs, by rw [hd]⟩
    rw [absClassName_dot]
    have hsp := (splitDots_spec ('.' :: cs)).2
    generalize (splitDots ('.' :: cs)).2 = rest at hsp
    generalize ((loc.getD []) ++ [['<']]).length - (splitDots ('.' :: cs)).1 = k
    cases hkept : ((loc.getD []) ++ [['<']]).take k with
    | nil => simpa using hsp
    | cons seg more =>
      have hh : (((loc.getD []) ++ [['<']]).take k).head? = some seg := by rw [hkept]; rfl
      have hk : k ≠ 0 := by
        intro hk; subst hk; simp at hkept
      rw [List.head?_take, if_neg hk] at hh
      have hseg : seg ≠ [] ∧ seg.head? ≠ some '.' := by
        cases hL : loc.getD [] with
        | nil =>
          rw [hL] at hh
          simp only [List.nil_append, List.head?_cons, Option.some.injEq] at hh
          subst hh
          exact ⟨by simp, by decide⟩
        | cons s ss =>
          rw [hL] at hh
          simp only [List.cons_append, List.head?_cons, Option.some.injEq] at hh
          subst hh
          exact hloc s (by rw [hL]; rfl)
      cases seg with
      | nil => exact absurd rfl hseg.1
      | cons y ys =>
        have := hseg.2
        simpa [List.flatMap_cons] using this
  · rw [abs_id_on_absolute loc c hd]; exact hd

/-- A sufficient condition for `AbsStable`: no class lives below a top-level directory whose
name is empty or starts with a dot. -/
theorem absStable_of_locs {r : Inv}
    (h : ∀ x ∈ r.classes, ∀ s, x.2.1.loc.head? = some s → s ≠ [] ∧ s.head? ≠ some '.') :
    AbsStable r :=
  ⟨fun x hx _ _ c _ => abs_head_ne_dot (some x.2.1.loc) (fun s hs => h x hx s (by simpa using hs)) c,
   fun _ _ _ _ c _ => abs_head_ne_dot none (fun s hs => by simp at hs) c⟩

/-! ### Non-vacuity -/

section Examples

private def ei (p : String) (loc : List String) : EntityInfo :=
  { path := [p.toList], loc := loc.map String.toList }

/-- Class `a.b.c` (directory `a/b`) includes `.x` (= `a.b.x`), `..y` (= `a.y`), the absolute `z`,
and `.${k}` (relative, with a reference; `k` is `x`, so it denotes `a.b.x` again).  The node
includes `.a.b.c` (a dotted entry in a node refers to the root). -/
private def exRel : Inv :=
  let s (x : String) : Yaml := .str x.toList
  { classes :=
      [ ("a.b.c".toList, ei "a/b/c.yml" ["a", "b"],
          .ok { classes := [".x".toList, "..y".toList, "z".toList, ".${k}".toList], apps := ["c".toList] }),
        ("a.b.x".toList, ei "a/b/x.yml" ["a", "b"], .ok { params := [(s "px", s "1")] }),
        ("a.y".toList, ei "a/y.yml" ["a"], .ok { classes := [".b.x".toList], params := [(s "k", s "x")] }),
        ("z".toList, ei "z.yml" [], .ok { apps := ["zapp".toList] }) ],
    nodes := [ ("n".toList, ei "n.yml" [], .ok { classes := [".a.b.c".toList] }) ] }

private def includesOf (l : List (Str × EntityInfo × FileRes)) : List (List Str) :=
  l.map fun x => match x.2.2 with | .ok src => src.classes | .bad _ => []

/-- The twin inventory spells the relative includes out (the entry with a reference is kept by
`twinInv` and made absolute by `twinInvAll`) … -/
example : includesOf (twinInv exRel).classes =
      [["a.b.x".toList, "a.y".toList, "z".toList, ".${k}".toList], [], ["a.b.x".toList], []] ∧
    includesOf (twinInv exRel).nodes = [["a.b.c".toList]] ∧
    includesOf (twinInvAll exRel).classes =
      [["a.b.x".toList, "a.y".toList, "z".toList, "a.b.${k}".toList], [], ["a.b.x".toList], []] := by
  decide +kernel

/-- … and differs from the original … -/
example : includesOf exRel.classes ≠ includesOf (twinInv exRel).classes := by decide +kernel

/-- … while node `n` renders identically in all three (by the theorems), … -/
example : renderNode 30 exRel "n".toList = renderNode 30 (twinInv exRel) "n".toList ∧
    renderNode 30 exRel "n".toList = renderNode 30 (twinInvAll exRel) "n".toList :=
  ⟨renderNode_twin 30 exRel _, renderNode_twinAll 30 exRel _⟩

/-- … namely to a value (checked by evaluation, independently for the original and the twin). -/
example : TextL.errOf (renderNode 30 exRel "n".toList) = none ∧
    TextL.errOf (renderNode 30 (twinInv exRel) "n".toList) = none ∧
    nodeJson (renderNode 30 exRel "n".toList) = nodeJson (renderNode 30 (twinInv exRel) "n".toList) := by
  decide +kernel

/-- The example is `AbsStable` by the syntactic criterion (top-level directories `a`, none). -/
example : AbsStable exRel :=
  absStable_of_locs (by decide +kernel)

/-- **Counterexample to unconditional replacement** (in the generality of the model's `Inv`,
where a class may be located below a directory `.h`).  Class `a` at location `.h` includes `.x`,
which denotes `.h.x`; the walk reads it through `absClassName` again, i.e. looks up `.h.h.x`, which
exists: the node renders.  In the raw twin the entry is `.h.x`, parsed to `.h.h.x`, looked up as
`.h.h.h.x`, which does not exist: the node fails.  (`twinInv` leaves the unstable entry alone.) -/
private def exUnstable : Inv :=
  { classes :=
      [ ("a".toList, ei "a.yml" [".h"], .ok { classes := [".x".toList] }),
        (".h.h.x".toList, ei "x.yml" [".h", "h"], .ok { apps := ["reached".toList] }) ],
    nodes := [ ("n".toList, ei "n.yml" [], .ok { classes := ["a".toList] }) ] }

example : TextL.errOf (renderNode 30 exUnstable "n".toList) = none ∧
    TextL.errOf (renderNode 30 (twinInvRaw exUnstable) "n".toList) =
      some (.classNotFound ".h.h.h.x".toList) ∧
    TextL.errOf (renderNode 30 (twinInv exUnstable) "n".toList) = none ∧
    includesOf (twinInvRaw exUnstable).classes = [[".h.x".toList], []] ∧
    includesOf (twinInv exUnstable).classes = [[".x".toList], []] := by decide +kernel

end Examples

end C15
end Reclass
