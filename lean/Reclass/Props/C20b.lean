/-
  C20 (second part) — the constructor and the options route build the same configuration.

  For an inventory path made of clean components and clean directory names `n`, `c`,
  `Config::new(inv, n, c, ig)` and `Config::new(inv, None, None, None)` followed by loading the
  options `nodes_uri: n`, `classes_uri: c`, `ignore_class_notfound: ig` from a file or dict in the
  inventory directory give the same configuration (`src/config.rs`, model `Model/Config`).  A
  string-valued path option is used as written, whatever its YAML text (repaired defect D15);
  other scalars go through their YAML text.

  "Clean" (`CleanComp`) means: non-empty, no `/`, not `.` and not `..`.  The inventory path is
  `pre ++ joinWith "/" comps` with `pre` empty (relative path) or `/` (absolute path) and at least
  one clean component; this is what makes `to_lexical_normal` the identity, which the constructor
  applies and `set_option` does not.
-/
import Reclass.Props.C20
namespace Reclass
namespace C20

/-! ## Path lemmas -/

/-- The fold step of `lexicalNormal`, named. -/
def lnStep (acc : List Str) (c : Str) : List Str :=
  if c = ['.'] then acc else if c = ['.', '.'] then dropLast acc else acc ++ [c]

theorem lexicalNormal_abs (p : Str) (h : p.head? = some '/') :
    lexicalNormal p = '/' :: joinWith ['/'] ((pathComponents p).foldl lnStep []) := by
  unfold lexicalNormal
  simp [h]
  rfl

theorem lexicalNormal_rel (p : Str) (h : p.head? ≠ some '/') (h2 : (pathComponents p).head? ≠ some ['.']) :
    lexicalNormal p = joinWith ['/'] ((pathComponents p).foldl lnStep []) := by
  unfold lexicalNormal
  simp [h, h2]
  rfl

def CleanComp (s : Str) : Prop := s ≠ [] ∧ (∀ ch ∈ s, ch ≠ '/') ∧ s ≠ ['.'] ∧ s ≠ ['.', '.']

theorem foldl_lnStep_clean (cs acc : List Str) (h : ∀ s ∈ cs, CleanComp s) : cs.foldl lnStep acc = acc ++ cs := by
  induction cs generalizing acc with
  | nil => simp
  | cons x xs ih =>
    have hx := h x (by simp)
    simp only [List.foldl_cons]
    rw [ih _ (fun s hs => h s (List.mem_cons_of_mem _ hs))]
    simp [lnStep, hx.2.2.1, hx.2.2.2]

theorem joinWith_append_single (sep : Str) (xs : List Str) (y : Str) (h : xs ≠ []) :
    joinWith sep (xs ++ [y]) = joinWith sep xs ++ sep ++ y := by
  induction xs with
  | nil => exact absurd rfl h
  | cons x xs ih =>
    cases xs with
    | nil => rfl
    | cons z zs =>
      rw [List.cons_append, List.cons_append, joinWith_cons_cons, ← List.cons_append, ih (by simp), joinWith_cons_cons]
      simp [List.append_assoc]

theorem joinWith_clean (comps : List Str) (hne : comps ≠ []) (h : ∀ s ∈ comps, CleanComp s) :
    joinWith ['/'] comps ≠ [] ∧ (joinWith ['/'] comps).getLast? ≠ some '/' ∧
    (joinWith ['/'] comps).head? ≠ some '/' := by
  induction comps with
  | nil => exact absurd rfl hne
  | cons x xs ih =>
    have hx := h x (by simp)
    have hhead : ∀ (r : Str), (x ++ r).head? ≠ some '/' := by
      intro r
      cases x with
      | nil => exact absurd rfl hx.1
      | cons a as => simpa using hx.2.1 a (by simp)
    cases xs with
    | nil =>
      refine ⟨hx.1, ?_, by have := hhead []; rw [List.append_nil] at this; exact this⟩
      intro hl
      exact hx.2.1 _ (List.mem_of_getLast? hl) rfl
    | cons z zs =>
      obtain ⟨i1, i2, _⟩ := ih (by simp) (fun s hs => h s (List.mem_cons_of_mem _ hs))
      rw [joinWith_cons_cons]
      refine ⟨by simp [hx.1], ?_, by rw [List.append_assoc]; exact hhead _⟩
      rw [List.getLast?_append]
      cases hl : (joinWith ['/'] (z :: zs)).getLast? with
      | none => simp at hl; exact absurd hl i1
      | some a => rw [hl] at i2; simpa using i2

theorem pathPush_clean (inv x : Str) (h1 : inv ≠ []) (h2 : inv.getLast? ≠ some '/') (hx : CleanComp x) :
    pathPush inv x = inv ++ '/' :: x := by
  have hh : x.head? ≠ some '/' := by
    cases x with
    | nil => simp
    | cons a as => simpa using hx.2.1 a (by simp)
  unfold pathPush
  simp [hh, h1, h2]

theorem pathComponents_clean (pre : Str) (hpre : pre = [] ∨ pre = ['/']) (cs : List Str) (hne : cs ≠ [])
    (h : ∀ s ∈ cs, CleanComp s) : pathComponents (pre ++ joinWith ['/'] cs) = cs := by
  have hs : splitOn '/' (joinWith ['/'] cs) = cs := splitOn_joinWith hne (fun s hs => (h s hs).2.1)
  have hf : cs.filter (fun s => !s.isEmpty) = cs := by
    rw [List.filter_eq_self]
    intro s hs
    have := (h s hs).1
    cases s with
    | nil => exact absurd rfl this
    | cons _ _ => rfl
  unfold pathComponents
  rcases hpre with rfl | rfl
  · rw [List.nil_append, hs, hf]
  · rw [List.singleton_append, splitOn_cons_sep, hs]
    simp only [List.filter_cons, List.isEmpty_nil, Bool.not_true, Bool.false_eq_true, if_false]
    exact hf

theorem lexicalNormal_clean (pre : Str) (hpre : pre = [] ∨ pre = ['/']) (cs : List Str) (hne : cs ≠ [])
    (h : ∀ s ∈ cs, CleanComp s) : lexicalNormal (pre ++ joinWith ['/'] cs) = pre ++ joinWith ['/'] cs := by
  have hc := pathComponents_clean pre hpre cs hne h
  obtain ⟨j1, _, j3⟩ := joinWith_clean cs hne h
  rcases hpre with rfl | rfl
  · rw [List.nil_append] at hc ⊢
    rw [lexicalNormal_rel _ j3, hc, foldl_lnStep_clean _ _ h, List.nil_append]
    rw [hc]
    cases cs with
    | nil => exact absurd rfl hne
    | cons x xs => have := (h x (by simp)).2.2.1; simpa using this
  · rw [lexicalNormal_abs _ (by simp), hc, foldl_lnStep_clean _ _ h]; rfl

theorem inv_push (pre : Str) (comps : List Str) (hne : comps ≠ [])
    (h : ∀ s ∈ comps, CleanComp s) (x : Str) (hx : CleanComp x) :
    pathPush (pre ++ joinWith ['/'] comps) x = pre ++ joinWith ['/'] comps ++ '/' :: x ∧
    pre ++ joinWith ['/'] comps ++ '/' :: x = pre ++ joinWith ['/'] (comps ++ [x]) := by
  obtain ⟨j1, j2, _⟩ := joinWith_clean comps hne h
  constructor
  · apply pathPush_clean _ _ (by simp [j1]) _ hx
    rw [List.getLast?_append]
    cases hl : (joinWith ['/'] comps).getLast? with
    | none => simp at hl; exact absurd hl j1
    | some a => rw [hl] at j2; simpa using j2
  · rw [joinWith_append_single _ _ _ hne]; simp [List.append_assoc]

theorem isPrefixComps_snoc_ne (comps : List Str) (a b : Str) (h : a ≠ b) :
    isPrefixComps (comps ++ [a]) (comps ++ [b]) = false := by
  unfold isPrefixComps
  have : (comps ++ [b]).take (comps ++ [a]).length = comps ++ [b] := by
    apply List.take_of_length_le; simp
  rw [this]
  simp [Ne.symm h]

/-- When the constructor succeeds and what it stores: clean, different directory names under a
clean inventory path are accepted and stored as `<inv>/<name>`. -/
theorem new_ok (pre : Str) (hpre : pre = [] ∨ pre = ['/']) (comps : List Str) (hne : comps ≠ [])
    (h : ∀ s ∈ comps, CleanComp s) (nodes classes : Option Str) (ig : Option Bool)
    (hn : CleanComp (nodes.getD "nodes".toList)) (hc : CleanComp (classes.getD "classes".toList))
    (hnc : nodes.getD "nodes".toList ≠ classes.getD "classes".toList) :
    ConfigM.new (pre ++ joinWith ['/'] comps) nodes classes ig =
      .ok { inventoryPath := pre ++ joinWith ['/'] comps,
            nodesPath := pre ++ joinWith ['/'] comps ++ '/' :: nodes.getD "nodes".toList,
            classesPath := pre ++ joinWith ['/'] comps ++ '/' :: classes.getD "classes".toList,
            ignoreClassNotfound := ig.getD false } := by
  obtain ⟨n1, n2⟩ := inv_push pre comps hne h _ hn
  obtain ⟨c1, c2⟩ := inv_push pre comps hne h _ hc
  have hcn : ∀ s ∈ comps ++ [nodes.getD "nodes".toList], CleanComp s := by
    intro s hs; rcases List.mem_append.1 hs with hs | hs
    · exact h s hs
    · simp at hs; subst hs; exact hn
  have hcc : ∀ s ∈ comps ++ [classes.getD "classes".toList], CleanComp s := by
    intro s hs; rcases List.mem_append.1 hs with hs | hs
    · exact h s hs
    · simp at hs; subst hs; exact hc
  unfold ConfigM.new
  simp only [n1, c1]
  rw [n2, c2, pathComponents_clean pre hpre _ (by simp) hcn, pathComponents_clean pre hpre _ (by simp) hcc,
    lexicalNormal_clean pre hpre _ (by simp) hcn, lexicalNormal_clean pre hpre _ (by simp) hcc,
    isPrefixComps_snoc_ne _ _ _ hnc, isPrefixComps_snoc_ne _ _ _ (Ne.symm hnc)]
  simp

theorem joinWith_splitOn (sep : Char) (s : Str) : joinWith [sep] (splitOn sep s) = s := by
  induction s with
  | nil => rfl
  | cons c cs ih =>
    rw [splitOn]
    cases h : splitOn sep cs with
    | nil => exact absurd h (splitOn_ne_nil sep cs)
    | cons seg segs =>
      rw [h] at ih
      by_cases hc : c = sep
      · simp only [hc, if_true]
        rw [joinWith_cons_cons, ih]; subst hc; rfl
      · simp only [hc, if_false]
        cases segs with
        | nil => simp [joinWith] at ih ⊢; exact ih
        | cons y ys =>
          rw [joinWith_cons_cons] at ih ⊢
          simp [← ih]

theorem pathParent_cfg (inv name : Str) (hn : '/' ∉ name) : pathParent (inv ++ '/' :: name) = inv := by
  unfold pathParent
  simp only [pathParent_file inv name hn]
  simp [dropLast, joinWith_splitOn]

/-- `cfg_path.with_file_name(v)` for a config file in the inventory directory is
`inventory_path.push(v)`, whatever the file is called. -/
theorem withFileName_cfg (inv name v : Str) (hn : '/' ∉ name) :
    withFileName (inv ++ '/' :: name) v = pathPush inv v := by
  unfold withFileName; rw [pathParent_cfg inv name hn]

theorem setOption_nodes (k : ConfigM) (p : Str) (v : Yaml) (vs : Str) :
    k.setOption p "nodes_uri".toList v vs = .ok { k with nodesPath := withFileName p (optText v vs) } := by
  unfold ConfigM.setOption; rw [if_pos rfl]

theorem setOption_classes (k : ConfigM) (p : Str) (v : Yaml) (vs : Str) :
    k.setOption p "classes_uri".toList v vs = .ok { k with classesPath := withFileName p (optText v vs) } := by
  unfold ConfigM.setOption
  repeat rw [String.toList_ofList]
  rw [if_neg (by decide), if_pos rfl]

theorem setOption_ignore (k : ConfigM) (p : Str) (b : Bool) (vs : Str) :
    k.setOption p "ignore_class_notfound".toList (.bool b) vs = .ok { k with ignoreClassNotfound := b } :=
  setOption_ignore_eq k p (.bool b) vs

theorem compile_default (k : ConfigM) (h : k.reported = [".*".toList]) :
    k.compile = .ok { k with compiled := [.any] } := by
  unfold ConfigM.compile
  rw [h]
  have : compilePats [".*".toList] = .ok [.any] := by rfl
  rw [this]

/-! ## Constructor = options -/

/-- **Constructor route = options route.** For a clean inventory path and clean, different
directory names `n` and `c`: `Config::new(inv, Some(n), Some(c), Some(ig))` succeeds, and
`Config::new(inv, None, None, None)` followed by loading
`{nodes_uri: n, classes_uri: c, ignore_class_notfound: ig}` from a file (or dict) located in
the inventory directory succeeds *with the same configuration* — every field, in particular
`nodesPath = <inv>/n`, `classesPath = <inv>/c`, the flag, the reported pattern list and the
compiled pattern set.  (`vs`, the YAML text of the boolean, is not looked at.) -/
theorem ctor_eq_options (pre : Str) (comps : List Str) (n c cfgname vs : Str) (ig : Bool)
    (hpre : pre = [] ∨ pre = ['/']) (hne : comps ≠ []) (hcomps : ∀ s ∈ comps, CleanComp s)
    (hn : CleanComp n) (hc : CleanComp c) (hnc : n ≠ c) (hcfg : '/' ∉ cfgname) :
    ∃ k : ConfigM,
      ConfigM.new (pre ++ joinWith ['/'] comps) (some n) (some c) (some ig) = .ok k ∧
      ((ConfigM.new (pre ++ joinWith ['/'] comps) none none none).bind fun k0 =>
        k0.load (pre ++ joinWith ['/'] comps ++ '/' :: cfgname)
          [⟨"nodes_uri".toList, .str n, n⟩, ⟨"classes_uri".toList, .str c, c⟩,
           ⟨"ignore_class_notfound".toList, .bool ig, vs⟩]) = .ok k ∧
      k.nodesPath = pre ++ joinWith ['/'] comps ++ '/' :: n ∧
      k.classesPath = pre ++ joinWith ['/'] comps ++ '/' :: c := by
  have hdn : CleanComp "nodes".toList := by
    refine ⟨by decide, by decide, by decide, by decide⟩
  have hdc : CleanComp "classes".toList := by
    refine ⟨by decide, by decide, by decide, by decide⟩
  refine ⟨_, new_ok pre hpre comps hne hcomps (some n) (some c) (some ig) hn hc hnc, ?_, rfl, rfl⟩
  rw [new_ok pre hpre comps hne hcomps none none none hdn hdc (by decide)]
  simp only [Except.bind, ConfigM.load, ConfigM.setOptions, setOption_nodes, setOption_classes, setOption_ignore, optText,
    withFileName_cfg _ _ _ hcfg, (inv_push pre comps hne hcomps n hn).1, (inv_push pre comps hne hcomps c hc).1]
  rw [compile_default _ rfl]
  rfl

/-- The statement of `ctor_eq_options` field by field, for any two results of the two routes. -/
theorem ctor_eq_options_fields (pre : Str) (comps : List Str) (n c cfgname vs : Str) (ig : Bool)
    (hpre : pre = [] ∨ pre = ['/']) (hne : comps ≠ []) (hcomps : ∀ s ∈ comps, CleanComp s)
    (hn : CleanComp n) (hc : CleanComp c) (hnc : n ≠ c) (hcfg : '/' ∉ cfgname) (k k' : ConfigM)
    (h1 : ConfigM.new (pre ++ joinWith ['/'] comps) (some n) (some c) (some ig) = .ok k)
    (h2 : ((ConfigM.new (pre ++ joinWith ['/'] comps) none none none).bind fun k0 =>
        k0.load (pre ++ joinWith ['/'] comps ++ '/' :: cfgname)
          [⟨"nodes_uri".toList, .str n, n⟩, ⟨"classes_uri".toList, .str c, c⟩,
           ⟨"ignore_class_notfound".toList, .bool ig, vs⟩]) = .ok k') :
    k.nodesPath = k'.nodesPath ∧ k.classesPath = k'.classesPath ∧
    k.ignoreClassNotfound = k'.ignoreClassNotfound ∧ k.reported = k'.reported ∧
    k.compiled = k'.compiled ∧ k = k' := by
  obtain ⟨k0, e1, e2, _⟩ := ctor_eq_options pre comps n c cfgname vs ig hpre hne hcomps hn hc hnc hcfg
  rw [e1] at h1; rw [e2] at h2
  injection h1 with h1; injection h2 with h2
  subst h1; subst h2
  exact ⟨rfl, rfl, rfl, rfl, rfl, rfl⟩

/-- The constructor rejects equal directory names (one of the overlap cases), while the
options route performs no overlap check at all: it accepts `nodes_uri = classes_uri`. So the
hypothesis `n ≠ c` of `ctor_eq_options` is needed. -/
theorem overlap_checked_only_by_ctor :
    (∃ e, ConfigM.new "/i".toList (some "x".toList) (some "x".toList) none = .error e) ∧
    (∃ k, ((ConfigM.new "/i".toList none none none).bind fun k0 =>
        k0.load "/i/cfg.yml".toList
          [⟨"nodes_uri".toList, .str "x".toList, "x".toList⟩,
           ⟨"classes_uri".toList, .str "x".toList, "x".toList⟩]) = .ok k ∧
        k.nodesPath = k.classesPath) :=
  ⟨⟨_, rfl⟩, ⟨_, rfl, rfl⟩⟩

/-! ## Path options: strings as written, other scalars through their YAML text -/

/-- `set_option("nodes_uri" | "classes_uri", v)` stores `with_file_name(t)` where `t` is the string itself when `v`
is a YAML string and the serialised YAML text of `v` otherwise. -/
theorem option_text (k : ConfigM) (p : Str) (v : Yaml) (vstr : Str) :
    k.setOption p "nodes_uri".toList v vstr = .ok { k with nodesPath := withFileName p (optText v vstr) } ∧
    k.setOption p "classes_uri".toList v vstr = .ok { k with classesPath := withFileName p (optText v vstr) } :=
  ⟨setOption_nodes k p v vstr, setOption_classes k p v vstr⟩

/-- A string-valued path option does not depend on how YAML would spell the string: whatever
`serde_yaml::to_string` makes of it (`'123'`, `"true"`, `'a: b'`), the stored path is built from the string. -/
theorem string_option_ignores_yaml_text (k : ConfigM) (p s vstr vstr' : Str) :
    k.setOption p "nodes_uri".toList (.str s) vstr = k.setOption p "nodes_uri".toList (.str s) vstr' ∧
    k.setOption p "classes_uri".toList (.str s) vstr = k.setOption p "classes_uri".toList (.str s) vstr' := by
  simp only [setOption_nodes, setOption_classes, optText, and_self]

/-- **Repaired defect D15 (quoted option).** The string `123` must be written `'123'` in YAML.  Given as `nodes_uri`
through a config file or dict it is stored as `/i/123`, exactly as the constructor stores it (`/i/'123'` before the
repair). -/
theorem quoted_option_agrees :
    (((ConfigM.new "/i".toList none none none).bind fun k0 =>
        k0.load "/i/reclass-config.yml".toList
          [⟨"nodes_uri".toList, .str "123".toList, "'123'".toList⟩]).toOption.map (·.nodesPath)
      = some "/i/123".toList) ∧
    ((ConfigM.new "/i".toList (some "123".toList) none none).toOption.map (·.nodesPath)
      = some "/i/123".toList) := by
  repeat rw [String.toList_ofList]
  decide +kernel

/-- The same in general: for clean names the options route stores the path the constructor stores, whatever the
YAML text of the string is. -/
theorem string_option_eq_ctor_path (pre : Str) (comps : List Str) (s vstr cfgname : Str) (k : ConfigM)
    (hcfg : '/' ∉ cfgname) :
    ∃ k', k.setOption (pre ++ joinWith ['/'] comps ++ '/' :: cfgname) "nodes_uri".toList (.str s) vstr = .ok k' ∧
      k'.nodesPath = pathPush (pre ++ joinWith ['/'] comps) s := by
  refine ⟨_, setOption_nodes _ _ _ _, ?_⟩
  simp only [optText, withFileName_cfg _ _ _ hcfg]

/-- A non-string scalar (`nodes_uri: 123`) is still accepted through its YAML text. -/
theorem scalar_option_uses_yaml_text (k : ConfigM) (p : Str) (n : Num) (vstr : Str) :
    k.setOption p "nodes_uri".toList (.num n) vstr = .ok { k with nodesPath := withFileName p vstr } :=
  setOption_nodes k p (.num n) vstr

/-! ### Non-vacuity -/

example : CleanComp "nodes".toList ∧ CleanComp "my-classes_2".toList ∧ ¬ CleanComp "..".toList ∧
    ¬ CleanComp "a/b".toList := by
  refine ⟨⟨by decide, by decide, by decide, by decide⟩, ⟨by decide, by decide, by decide, by decide⟩, ?_, ?_⟩
  · intro h; exact h.2.2.2 rfl
  · intro h; exact h.2.1 '/' (by decide) rfl

/-- An instance of `ctor_eq_options`: `/srv/inv` with `n = "nodes2"`, `c = "cls"`. -/
example : ∃ k : ConfigM,
    ConfigM.new "/srv/inv".toList (some "nodes2".toList) (some "cls".toList) (some true) = .ok k ∧
    ((ConfigM.new "/srv/inv".toList none none none).bind fun k0 =>
      k0.load "/srv/inv/reclass-config.yml".toList
        [⟨"nodes_uri".toList, .str "nodes2".toList, "nodes2".toList⟩,
         ⟨"classes_uri".toList, .str "cls".toList, "cls".toList⟩,
         ⟨"ignore_class_notfound".toList, .bool true, "true".toList⟩]) = .ok k ∧
    k.nodesPath = "/srv/inv/nodes2".toList ∧ k.classesPath = "/srv/inv/cls".toList := by
  have h := ctor_eq_options ['/'] ["srv".toList, "inv".toList] "nodes2".toList "cls".toList
    "reclass-config.yml".toList "true".toList true (Or.inr rfl) (by simp)
    (by intro s hs; simp at hs; rcases hs with rfl | rfl <;> exact ⟨by decide, by decide, by decide, by decide⟩)
    ⟨by decide, by decide, by decide, by decide⟩ ⟨by decide, by decide, by decide, by decide⟩
    (by decide) (by simp)
  repeat rw [String.toList_ofList] at h ⊢
  simpa [joinWith] using h

/-- Normalisation is *not* the identity on unclean paths, which is why the constructor and the
options route (which does not normalise) can differ there: `nodes_uri: ./n`. -/
example : lexicalNormal "/i/./n".toList = "/i/n".toList ∧
    withFileName "/i/cfg.yml".toList "./n".toList = "/i/./n".toList := by
  decide +kernel

end C20
end Reclass
