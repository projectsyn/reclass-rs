/-
  C12 (aggregation part) — Rendering the whole inventory with any number of worker threads
  yields identical node data; each node's entry in the full inventory equals what rendering
  that node alone returns.

  The parallel map of `Inventory::render` (`src/inventory.rs`) produces the `(name, result)`
  pairs in an order that depends on the hash map and the thread pool.  The model takes that
  order as its input list, so "any number of threads / any completion order" is "any
  permutation of the result list".  (That each per-node result itself does not depend on the
  thread it ran on is the determinism of the pure function `renderNode`, a different part of
  C12.)

  Remark on strength: the index statements below need *no* side condition (not even distinct
  node names): each stored list is the sorted arrangement of a multiset that does not depend on
  the order, and the order `strLe` is antisymmetric.
-/
import Reclass.Props.C13
namespace Reclass
namespace C12

/-- Failure does not depend on the order: one order fails iff the other does.  (Which failing node
the error names *does* depend on the order, see `C13.error_names_first_failing_node`.) -/
theorem fails_perm_invariant {results results' : List (Str × R NodeInfoM)}
    (hp : results.Perm results') :
    (∃ e, Inventory.render results = .error e) ↔ (∃ e, Inventory.render results' = .error e) := by
  rw [C13.fails_iff_some_node_fails, C13.fails_iff_some_node_fails]
  constructor
  · rintro ⟨p, hm, he⟩; exact ⟨p, hp.mem_iff.1 hm, he⟩
  · rintro ⟨p, hm, he⟩; exact ⟨p, hp.mem_iff.2 hm, he⟩

/-- The stored node entries of two orders are permutations of each other. -/
theorem nodes_perm {results results' : List (Str × R NodeInfoM)} {inv inv' : InventoryM}
    (hp : results.Perm results')
    (h : Inventory.render results = .ok inv) (h' : Inventory.render results' = .ok inv') :
    inv.nodes.Perm inv'.nodes := by
  obtain ⟨infos, _, hf, hn, _, _⟩ := render_ok_inv h
  obtain ⟨infos', _, hf', hn', _, _⟩ := render_ok_inv h'
  rw [hn, hn', hf, hf']
  exact hp.filterMap _

/-- Every list stored in the class index is literally the same list for both orders. -/
theorem class_lists_eq {results results' : List (Str × R NodeInfoM)} {inv inv' : InventoryM}
    (hp : results.Perm results')
    (h : Inventory.render results = .ok inv) (h' : Inventory.render results' = .ok inv') (c : Str) :
    ixLookup c inv.classes = ixLookup c inv'.classes := by
  have hn := nodes_perm hp h h'
  obtain ⟨infos, _, _, hn1, hc, _⟩ := render_ok_inv h
  obtain ⟨infos', _, _, hn1', hc', _⟩ := render_ok_inv h'
  rw [hn1, hn1'] at hn
  rw [hc, hc', ixLookup_ixFold_eq, ixLookup_ixFold_eq]
  exact sortStrs_eq_of_perm (occ_perm hn)

/-- Every list stored in the application index is literally the same list for both orders. -/
theorem app_lists_eq {results results' : List (Str × R NodeInfoM)} {inv inv' : InventoryM}
    (hp : results.Perm results')
    (h : Inventory.render results = .ok inv) (h' : Inventory.render results' = .ok inv') (a : Str) :
    ixLookup a inv.apps = ixLookup a inv'.apps := by
  have hn := nodes_perm hp h h'
  obtain ⟨infos, _, _, hn1, _, ha⟩ := render_ok_inv h
  obtain ⟨infos', _, _, hn1', _, ha'⟩ := render_ok_inv h'
  rw [hn1, hn1'] at hn
  rw [ha, ha', ixLookup_ixFold_eq, ixLookup_ixFold_eq]
  exact sortStrs_eq_of_perm (occ_perm hn)

/-- Both orders produce the same set of index keys. -/
theorem index_keys_eq {results results' : List (Str × R NodeInfoM)} {inv inv' : InventoryM}
    (hp : results.Perm results')
    (h : Inventory.render results = .ok inv) (h' : Inventory.render results' = .ok inv') (k : Str) :
    (k ∈ inv.classes.map Prod.fst ↔ k ∈ inv'.classes.map Prod.fst) ∧
    (k ∈ inv.apps.map Prod.fst ↔ k ∈ inv'.apps.map Prod.fst) := by
  rw [C13.class_keys_exact h, C13.class_keys_exact h', C13.app_keys_exact h, C13.app_keys_exact h']
  simp only [hp.mem_iff, and_self]

/-- **Any iteration / completion order yields identical inventory data.**  If `results'` is a
permutation of `results`, then rendering fails for one iff it fails for the other, and when both
succeed: the node entries are the same (as a set, indeed as a multiset), both indices have the
same keys, and under every key they store *the same list*.  Since the Rust containers are hash
maps (nodes, classes, applications), this is equality of the inventories as data. -/
theorem inventory_perm_invariant {results results' : List (Str × R NodeInfoM)}
    (hp : results.Perm results') :
    ((∃ e, Inventory.render results = .error e) ↔ (∃ e, Inventory.render results' = .error e)) ∧
    ∀ inv inv', Inventory.render results = .ok inv → Inventory.render results' = .ok inv' →
      inv.nodes.Perm inv'.nodes ∧
      (∀ name info, (name, info) ∈ inv.nodes ↔ (name, info) ∈ inv'.nodes) ∧
      (∀ k, (k ∈ inv.classes.map Prod.fst ↔ k ∈ inv'.classes.map Prod.fst) ∧
            (k ∈ inv.apps.map Prod.fst ↔ k ∈ inv'.apps.map Prod.fst)) ∧
      (∀ k, ixLookup k inv.classes = ixLookup k inv'.classes) ∧
      (∀ k, ixLookup k inv.apps = ixLookup k inv'.apps) := by
  refine ⟨fails_perm_invariant hp, ?_⟩
  intro inv inv' h h'
  have hn := nodes_perm hp h h'
  exact ⟨hn, fun _ _ => hn.mem_iff, index_keys_eq hp h h', class_lists_eq hp h h',
    app_lists_eq hp h h'⟩

/-- Success does not depend on the order either: if one order renders, so does every other. -/
theorem succeeds_perm_invariant {results results' : List (Str × R NodeInfoM)}
    (hp : results.Perm results') {inv : InventoryM} (h : Inventory.render results = .ok inv) :
    ∃ inv', Inventory.render results' = .ok inv' := by
  cases h' : Inventory.render results' with
  | ok inv' => exact ⟨inv', rfl⟩
  | error e =>
    obtain ⟨e0, he0⟩ := (fails_perm_invariant hp).2 ⟨e, h'⟩
    rw [h] at he0; cases he0

/-- **Each node's entry in the full inventory equals what rendering that node alone returns**:
the stored `info` under `name` is exactly the `info` of the single-node result `(name, .ok info)`,
and conversely every single-node result is stored. -/
theorem inventory_entry_eq_single {results : List (Str × R NodeInfoM)} {inv : InventoryM}
    (h : Inventory.render results = .ok inv) (name : Str) (info : NodeInfoM) :
    (name, info) ∈ inv.nodes ↔ (name, .ok info) ∈ results :=
  (C13.nodes_exact h).2 name info

/-- With distinct node names the stored entry of a node is *the* single-node result: whatever is
stored under `name` equals whatever rendering `name` alone returned. -/
theorem inventory_entry_unique {results : List (Str × R NodeInfoM)} {inv : InventoryM}
    (hd : (results.map Prod.fst).Nodup) (h : Inventory.render results = .ok inv)
    {name : Str} {info info' : NodeInfoM}
    (h1 : (name, info) ∈ inv.nodes) (h2 : (name, .ok info') ∈ results) : info = info' :=
  eq_of_mem_of_nodup_keys (C13.node_names_nodup hd h) h1 ((inventory_entry_eq_single h _ _).2 h2)

/-! ### Non-vacuity -/

section Examples

private def n1 : NodeInfoM :=
  { nmeta := {}, apps := ["a1".toList], classes := ["c1".toList, "c2".toList], params := {} }
private def n2 : NodeInfoM :=
  { nmeta := {}, apps := ["a1".toList, "a2".toList], classes := ["c2".toList], params := {} }
private def n3 : NodeInfoM :=
  { nmeta := {}, apps := [], classes := ["c3".toList, "c1".toList], params := {} }

private def orderA : List (Str × R NodeInfoM) :=
  [("n2".toList, .ok n2), ("n3".toList, .ok n3), ("n1".toList, .ok n1)]
private def orderB : List (Str × R NodeInfoM) :=
  [("n1".toList, .ok n1), ("n2".toList, .ok n2), ("n3".toList, .ok n3)]

private def classesOf (r : R InventoryM) : List (Str × List Str) :=
  match r with | .ok inv => inv.classes | .error _ => []

private theorem orderA_perm_orderB : orderA.Perm orderB := by
  unfold orderA orderB
  exact ((List.Perm.swap _ _ _).trans (List.Perm.cons _ (List.Perm.swap _ _ _))).symm

/-- Two genuinely different orders: the raw index lists differ in key order ... -/
example : classesOf (Inventory.render orderA) =
      [("c2".toList, ["n1".toList, "n2".toList]), ("c3".toList, ["n3".toList]),
       ("c1".toList, ["n1".toList, "n3".toList])] ∧
    classesOf (Inventory.render orderB) =
      [("c1".toList, ["n1".toList, "n3".toList]), ("c2".toList, ["n1".toList, "n2".toList]),
       ("c3".toList, ["n3".toList])] := by
  constructor
  · simp only [Inventory.render, orderA, Inventory.collect, sortAll, sortStrs_eq_insSort, classesOf]
    decide +kernel
  · simp only [Inventory.render, orderB, Inventory.collect, sortAll, sortStrs_eq_insSort, classesOf]
    decide +kernel

/-- ... but, by the theorem, every key holds the same list in both. -/
example (inv inv' : InventoryM) (h : Inventory.render orderA = .ok inv)
    (h' : Inventory.render orderB = .ok inv') (k : Str) :
    ixLookup k inv.classes = ixLookup k inv'.classes ∧ ixLookup k inv.apps = ixLookup k inv'.apps :=
  ⟨class_lists_eq orderA_perm_orderB h h' k, app_lists_eq orderA_perm_orderB h h' k⟩

/-- Both orders do render (the premises above are satisfiable). -/
example : (∃ inv, Inventory.render orderA = .ok inv) ∧ (∃ inv, Inventory.render orderB = .ok inv) :=
  ⟨⟨_, rfl⟩, ⟨_, rfl⟩⟩

/-- The stored entry of `n3` is its single-node result. -/
example (inv : InventoryM) (h : Inventory.render orderA = .ok inv) : ("n3".toList, n3) ∈ inv.nodes :=
  (inventory_entry_eq_single h _ _).2 (by simp [orderA])

end Examples

end C12
end Reclass
