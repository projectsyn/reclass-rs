/-
  C20 — configuration entry points agree and stay self-consistent.

  Theorems about the configuration state machine `Model/Config` (`src/config.rs`):
  every history of calls, successful or failed, keeps the reported pattern list and the
  compiled pattern set in agreement; the file and dict routes coincide; unknown options
  are ignored; wrong types and non-compiling patterns are rejected.
-/
import Reclass.Model.Config
import Reclass.Lemmas.NamingL
namespace Reclass
namespace C20

/-- The settings an instance reports and the behaviour it shows agree: the compiled pattern
set is what compiling the reported list gives. -/
def Consistent (c : ConfigM) : Prop := compilePats c.reported = .ok c.compiled

/-- The constructor yields a consistent configuration (`[".*"]` compiled to "match all"). -/
theorem new_consistent (inv : Str) (n cl : Option Str) (ig : Option Bool) (c : ConfigM)
    (h : ConfigM.new inv n cl ig = .ok c) : Consistent c := by
  unfold ConfigM.new at h
  simp only [] at h
  split at h
  · cases h
  · injection h with h; subst h; exact rfl

/-- Compiling makes a configuration consistent, whatever it reported before. -/
theorem compile_consistent (c c' : ConfigM) (h : c.compile = .ok c') : Consistent c' := by
  unfold ConfigM.compile at h
  cases hc : compilePats c.reported with
  | error e => simp [hc] at h
  | ok ps =>
    simp only [hc] at h
    injection h with h; subst h
    exact hc

/-- Loading options from a file or a dict (fold of `set_option`, then compile) yields a
consistent configuration for every option list. -/
theorem load_consistent (c c' : ConfigM) (p : Str) (opts : List Opt) (h : c.load p opts = .ok c') :
    Consistent c' := by
  unfold ConfigM.load at h
  cases hs : c.setOptions p opts with
  | error e => simp [hs] at h
  | ok c1 => simp only [hs] at h; exact compile_consistent c1 c' h

/-- Every call on a live instance, successful or failed, keeps it consistent. -/
theorem call_consistent (c : ConfigM) (s : CfgCall) (h : Consistent c) : Consistent (c.call s).1 := by
  cases s with
  | setPatterns ps =>
    unfold ConfigM.call
    cases hc : compilePats ps with
    | error e => simpa [hc] using h
    | ok pats => simp [hc, Consistent]
  | setFlag => exact h
  | unsetFlag => exact h
  | clearFlags => exact h

/-- A failed call leaves the whole state unchanged. -/
theorem failed_call_unchanged (c : ConfigM) (s : CfgCall) (h : (c.call s).2 = false) : (c.call s).1 = c := by
  cases s with
  | setPatterns ps =>
    unfold ConfigM.call at h ⊢
    cases hc : compilePats ps with
    | error e => simp [hc]
    | ok pats => simp [hc] at h
  | setFlag => simp [ConfigM.call] at h
  | unsetFlag => simp [ConfigM.call] at h
  | clearFlags => simp [ConfigM.call] at h

/-- **Invariant over every history**: after any sequence of calls (failed ones included)
on a consistent instance, the instance is consistent. -/
theorem history_consistent (calls : List CfgCall) (c : ConfigM) (h : Consistent c) :
    Consistent (calls.foldl (fun c s => (c.call s).1) c) := by
  induction calls generalizing c with
  | nil => exact h
  | cons s rest ih => exact ih _ (call_consistent c s h)

/-- Consequently the ignore decision is a function of the *reported* settings: two consistent
configurations reporting the same flag and pattern list decide alike on every class name. -/
theorem decision_by_reported (c c' : ConfigM) (h : Consistent c) (h' : Consistent c')
    (hr : c.reported = c'.reported) (hf : c.ignoreClassNotfound = c'.ignoreClassNotfound) (cls : Str) :
    c.isClassIgnored cls = c'.isClassIgnored cls := by
  unfold Consistent at h h'
  rw [hr, h'] at h
  injection h with h
  unfold ConfigM.isClassIgnored
  rw [hf, h]

/-- A pattern list with an entry that does not compile is rejected by the setter, and the
instance keeps its previous settings. -/
theorem bad_pattern_rejected (c : ConfigM) (ps : List Str) (h : compilePats ps = .error (.config "regex".toList)) :
    c.call (.setPatterns ps) = (c, false) := by
  simp [ConfigM.call, h]

/-- … and by loading: options whose pattern list does not compile make `load` fail. -/
theorem bad_pattern_rejected_load (c c1 : ConfigM) (p : Str) (opts : List Opt) (e : Err)
    (hs : c.setOptions p opts = .ok c1) (h : compilePats c1.reported = .error e) :
    c.load p opts = .error e := by
  simp [ConfigM.load, hs, ConfigM.compile, h]

/-- Unknown options are ignored. -/
theorem unknown_ignored (c : ConfigM) (p k : Str) (v : Yaml) (vs : Str)
    (hk : ∀ x ∈ Extracted.optionKeys, x.toList ≠ k) : c.setOption p k v vs = .ok c := by
  have h : ∀ x ∈ Extracted.optionKeys, k ≠ x.toList := fun x hx e => hk x hx e.symm
  unfold ConfigM.setOption
  rw [if_neg (h "nodes_uri" (by simp [Extracted.optionKeys])),
    if_neg (h "classes_uri" (by simp [Extracted.optionKeys])),
    if_neg (h "ignore_class_notfound" (by simp [Extracted.optionKeys])),
    if_neg (h "ignore_class_notfound_regexp" (by simp [Extracted.optionKeys])),
    if_neg (h "compose_node_name" (by simp [Extracted.optionKeys])),
    if_neg (h "reclass_rs_compat_flags" (by simp [Extracted.optionKeys]))]

/-! What `setOption` does at each typed key.  Two keys differ because their characters do: a
string literal is `String.ofList` of its characters, so `decide` runs on `List Char`. -/

theorem setOption_ignore_eq (c : ConfigM) (p : Str) (v : Yaml) (vs : Str) :
    c.setOption p "ignore_class_notfound".toList v vs =
      match v with
      | .bool b => .ok { c with ignoreClassNotfound := b }
      | _ => .error (.config "ignore_class_notfound".toList) := by
  unfold ConfigM.setOption
  repeat rw [String.toList_ofList]
  rw [if_neg (by decide), if_neg (by decide), if_pos rfl]
  cases v <;> rfl

theorem setOption_compose_eq (c : ConfigM) (p : Str) (v : Yaml) (vs : Str) :
    c.setOption p "compose_node_name".toList v vs =
      match v with
      | .bool b => .ok { c with composeNodeName := b }
      | _ => .error (.config "compose_node_name".toList) := by
  unfold ConfigM.setOption
  repeat rw [String.toList_ofList]
  rw [if_neg (by decide), if_neg (by decide), if_neg (by decide), if_neg (by decide), if_pos rfl]
  cases v <;> rfl

theorem setOption_regexp_eq (c : ConfigM) (p : Str) (v : Yaml) (vs : Str) :
    c.setOption p "ignore_class_notfound_regexp".toList v vs =
      match v with
      | .seq l => (collectPatterns l []).map fun ps => { c with reported := ps }
      | _ => .error (.config "ignore_class_notfound_regexp".toList) := by
  unfold ConfigM.setOption
  repeat rw [String.toList_ofList]
  rw [if_neg (by decide), if_neg (by decide), if_neg (by decide), if_pos rfl]
  cases v with
  | seq l => dsimp only; cases collectPatterns l [] <;> rfl
  | _ => rfl

/-- A flag option that is not a boolean is rejected. -/
theorem wrong_type_flag_rejected (c : ConfigM) (p : Str) (v : Yaml) (vs : Str) (hv : ∀ b, v ≠ .bool b) :
    (∃ e, c.setOption p "ignore_class_notfound".toList v vs = .error e) ∧
    (∃ e, c.setOption p "compose_node_name".toList v vs = .error e) := by
  rw [setOption_ignore_eq, setOption_compose_eq]
  cases v with
  | bool b => exact absurd rfl (hv b)
  | _ => exact ⟨⟨_, rfl⟩, ⟨_, rfl⟩⟩

/-- A pattern list option that is not a list is rejected. -/
theorem wrong_type_patterns_rejected (c : ConfigM) (p : Str) (v : Yaml) (vs : Str) (hv : ∀ l, v ≠ .seq l) :
    ∃ e, c.setOption p "ignore_class_notfound_regexp".toList v vs = .error e := by
  rw [setOption_regexp_eq]
  cases v with
  | seq l => exact absurd rfl (hv l)
  | _ => exact ⟨_, rfl⟩

/-- A list with an entry that is not a string fails in `collectPatterns`, which `setOption` runs on
the list (`setOption_regexp_eq`). -/
theorem collectPatterns_nonstring (pre : List Str) (x : Yaml) (post : List Yaml) (acc : List Str)
    (hx : ∀ s, x ≠ .str s) :
    ∃ e, collectPatterns (pre.map Yaml.str ++ x :: post) acc = .error e := by
  induction pre generalizing acc with
  | nil =>
    cases x with
    | str s => exact absurd rfl (hx s)
    | _ => exact ⟨_, rfl⟩
  | cons s rest ih => exact ih (acc ++ [s])

/-- The components of `<inv>/<file name>` are those of `<inv>`, then the file name.  Hence its
parent is `<inv>` (`pathParent_cfg` in `Props/C20b`): the file name of the config file does not
matter for `nodes_uri`/`classes_uri`. -/
theorem pathParent_file (inv name : Str) (hn : '/' ∉ name) :
    splitOn '/' (inv ++ '/' :: name) = splitOn '/' inv ++ [name] := by
  induction inv with
  | nil =>
    have : splitOn '/' name = [name] := splitOn_nosep fun c hc e => hn (e ▸ hc)
    simp [splitOn, this]
  | cons c cs ih =>
    simp only [List.cons_append, splitOn, ih]
    cases h : splitOn '/' cs with
    | nil => exact absurd h (splitOn_ne_nil '/' cs)
    | cons seg segs => by_cases hc : c = '/' <;> simp [hc]

/-- **File route = dict route**: `load` depends on the config-file path only through its
directory, so loading the same options with `<inv>/reclass-config.yml` (file) and with
`<inv>/dummy` (dict) gives the same configuration or the same error. -/
theorem file_eq_dict (c : ConfigM) (inv a b : Str) (ha : '/' ∉ a) (hb : '/' ∉ b) (opts : List Opt) :
    c.load (inv ++ '/' :: a) opts = c.load (inv ++ '/' :: b) opts := by
  have hp : pathParent (inv ++ '/' :: a) = pathParent (inv ++ '/' :: b) := by
    unfold pathParent
    rw [pathParent_file inv a ha, pathParent_file inv b hb]
    simp [dropLast]
  have hw : ∀ v, withFileName (inv ++ '/' :: a) v = withFileName (inv ++ '/' :: b) v := by
    intro v; unfold withFileName; rw [hp]
  have hso : ∀ (c : ConfigM) k v vs, c.setOption (inv ++ '/' :: a) k v vs = c.setOption (inv ++ '/' :: b) k v vs := by
    intro c k v vs; unfold ConfigM.setOption; simp only [hw]
  have hss : ∀ (opts : List Opt) (c : ConfigM), c.setOptions (inv ++ '/' :: a) opts = c.setOptions (inv ++ '/' :: b) opts := by
    intro opts
    induction opts with
    | nil => intro c; rfl
    | cons o rest ih =>
      intro c
      simp only [ConfigM.setOptions, hso]
      cases c.setOption (inv ++ '/' :: b) o.key o.val o.vstr with
      | error e => rfl
      | ok c' => exact ih c'
  unfold ConfigM.load
  rw [hss]

/-! ### Non-vacuity -/

example : Consistent {} := rfl

example : (({} : ConfigM).call (.setPatterns ["^zzz$".toList, "(".toList])) = ({}, false) := by decide +kernel

example : let c := (({ ignoreClassNotfound := true } : ConfigM).call (.setPatterns ["^zzz$".toList])).1
    c.isClassIgnored "zzz".toList = true ∧ c.isClassIgnored "abc".toList = false := by decide +kernel

example : (ConfigM.load {} "/i/cfg.yml".toList
    [{ key := "ignore_class_notfound_regexp".toList, val := .seq [.str "^a".toList], vstr := [] }]).toOption.map
      (fun c => (c.reported, c.compiled)) = some (["^a".toList], [.pfx "a".toList]) := by decide +kernel

end C20
end Reclass
