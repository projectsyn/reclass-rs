/-
  C08 (second half) — "Acyclic references, including the same reference used many times,
  diamond-shaped sharing and chains shorter than the documented depth limit of 64, are never
  rejected as loops."

  Acyclicity is witnessed by a rank: a function `rk` on reference path texts (`"a"`, `"a:b:c"`)
  and a set `P` of relevant paths (those that can be the rendered path of some reference) such
  that the references met while resolving a relevant path `p` have rank `< rk p`
  (`Strat.Strat root rk P`; the vocabulary is defined in `Lemmas/StratL`).  The hypotheses are
  decidable against a finite rank table.

  The shapes one might suspect of a false loop (`t: ${m}` with `m: {a: ${x}, b: ${x}}`, `${m:a}`
  followed by the container's own interpolation) render fine, see the examples at the end.
-/
import Reclass.Lemmas.StratL
import Reclass.Props.C08
namespace Reclass
namespace C08
open Strat

def NoLoopNoDepth {α : Type} (x : R α) : Prop :=
  x ≠ .error .loop ∧ ∀ c, x ≠ .error (.depth c)

theorem noLoopNoDepth_of_res {α : Type} {Q : α → Prop} {x : R α} (h : Res Q x) :
    NoLoopNoDepth x :=
  ⟨h.ne_loop, fun c hc => (h.notLD hc).2 c rfl⟩

/-! ### The general theorem -/

/-- **No false loop on stratified roots.**  Let `rk` rank the reference paths so that resolving
any relevant path only ever needs paths of strictly smaller rank (`Strat root rk P`).  Then
interpolating a value all of whose references have rank `< R`, from a state that has room for
`R` more nested resolutions and has only seen paths of rank `≥ R` (in particular: from the
initial state, when `R ≤ 64`), is never rejected as a reference loop and never as too deep —
whatever the fuel, however often a reference is repeated, however the references share
targets.  (Other errors — missing keys, merge conflicts, … — remain possible.) -/
theorem stratified_no_loop {root : Mapping} {rk : Str → Nat} {P : Str → Prop}
    (hS : Strat root rk P) {R : Nat} {v : Value} {st : RState}
    (hv : RefsIn root rk P R v) (hok : Ok rk R st) (n : Nat) :
    NoLoopNoDepth (interp n root v st) :=
  noLoopNoDepth_of_res ((sInv hS n).interp R v st hv hok)

/-- Same as `stratified_no_loop` for `Token::resolve` on a single token. -/
theorem stratified_resolve_no_loop {root : Mapping} {rk : Str → Nat} {P : Str → Prop}
    (hS : Strat root rk P) {R : Nat} {t : Token} {st : RState}
    (ht : TokOK root rk P R t) (hok : Ok rk R st) (n : Nat) :
    NoLoopNoDepth (tokResolve n root t st) :=
  noLoopNoDepth_of_res ((sInv hS n).tokResolve R t st ht hok)

/-- **What comes back.**  Under the hypotheses of `stratified_no_loop`, a successful
interpolation returns a value without any reference left, and every path the returned state has
seen was either seen before or is a relevant path of rank `< R` (so the invariant "everything
seen has rank at least the rank bound of what is evaluated next" can be re-established by the
caller). -/
theorem stratified_result {root : Mapping} {rk : Str → Nat} {P : Str → Prop}
    (hS : Strat root rk P) {R : Nat} {v : Value} {st : RState}
    (hv : RefsIn root rk P R v) (hok : Ok rk R st) {n : Nat} {r : Value} {st' : RState}
    (h : interp n root v st = .ok (r, st')) :
    RefsIn root rk P 0 r ∧ ∀ q ∈ st'.seen, q ∈ st.seen ∨ (P q ∧ rk q < R) := by
  have := (sInv hS n).interp R v st hv hok
  rw [h] at this
  exact this

theorem ok_initial (rk : Str → Nat) {R : Nat} (hR : R ≤ maxDepth) : Ok rk R {} :=
  ⟨Or.inr (by simpa using hR), fun _ h => by simp at h⟩

/-- **`render_parameters` on a stratified parameter set** whose references all have rank
`< R ≤ 64`: the outcome is never the loop error and never the depth error, for every fuel. -/
theorem stratified_render_no_loop {root : Mapping} {rk : Str → Nat} {P : Str → Prop}
    (hS : Strat root rk P) {R : Nat} (hR : R ≤ maxDepth)
    (hroot : RefsIn root rk P R root.toValue) (n : Nat) :
    NoLoopNoDepth (renderParamsF n root) := by
  rw [renderParamsF_eqB, renderedF_eqB]
  refine noLoopNoDepth_of_res (Q := fun _ => True) ?_
  refine (((sInv hS n).interp R root.toValue {} hroot (ok_initial rk hR)).bind2 fun v' st _ _ =>
    Res.of_helper (flat_helper v' st)).bind1 fun v _ _ => ?_
  split
  · trivial
  · exact ⟨fun h => (nomatch h), fun _ h => nomatch h⟩

/-- Rendering a stratified parameter set settles on one outcome for all sufficiently large
fuel, and that outcome is a mapping or an error other than loop / depth / fuel. -/
theorem stratified_render_settles {root : Mapping} {rk : Str → Nat} {P : Str → Prop}
    (hS : Strat root rk P) {R : Nat} (hR : R ≤ maxDepth)
    (hroot : RefsIn root rk P R root.toValue) :
    ∃ N r, r ≠ .error .fuel ∧ NoLoopNoDepth r ∧ ∀ n, N ≤ n → renderParamsF n root = r := by
  obtain ⟨N, r, hne, hall⟩ := renderParams_settles root
  refine ⟨N, r, hne, ?_, hall⟩
  rw [← hall N (Nat.le_refl _)]
  exact stratified_render_no_loop hS hR hroot N

/-! ### Depth-1 graphs: arbitrary sharing and repetition -/

/-- **Diamonds and repeated references.**  If no value stored under a top-level key of `root`
contains a reference (`RefsIn … 0`), then any value whose references are plain (`RefsIn … 1`:
literal path text or nested pieces that are themselves reference-free) — the same reference
repeated any number of times, in list elements, mapping values, layers, embedded in strings,
into the same or different keys, with or without `:`-paths — is never rejected as a loop or as
too deep, from any state with an empty `seen` set and room for one resolution. -/
theorem diamond_no_loop {root : Mapping} {P : Str → Prop}
    (hroot : ∀ k v0, root.get (.str k) = some v0 → RefsIn root (fun _ => 0) P 0 v0)
    {v : Value} (hv : RefsIn root (fun _ => 0) P 1 v) {st : RState}
    (hd : st.depth + 1 ≤ maxDepth) (hs : st.seen = []) (n : Nat) :
    NoLoopNoDepth (interp n root v st) := by
  have hS : Strat root (fun _ => 0) P := by
    intro p _ k0 segs v0 _ hg
    exact reach_of_refsIn segs v0 (hroot k0 v0 hg)
  exact stratified_no_loop hS hv ⟨Or.inr hd, by simp [hs]⟩ n

/-- `stratified_render_no_loop` at `R = 2`; in particular `render_parameters` on a parameter set
that is a depth-1 graph: some keys hold reference-free values (rank 0), the others refer only to
those (rank 1). -/
theorem diamond_render_no_loop {root : Mapping} {rk : Str → Nat} {P : Str → Prop}
    (hS : Strat root rk P) (hroot : RefsIn root rk P 2 root.toValue) (n : Nat) :
    NoLoopNoDepth (renderParamsF n root) :=
  stratified_render_no_loop hS (by decide) hroot n

/-! ### Discharging the hypotheses -/

/-- A reference written with literal path text `p` (`${a:b}`; no `${…}` nested inside the
braces) satisfies `TokOK` at every rank above `rk p`. -/
theorem literal_ref_ok {root : Mapping} {rk : Str → Nat} {P : Str → Prop} {parts : List Token}
    {p : Str} {R : Nat} (hp : litParts parts = some p) (hP : P p) (hr : rk p < R) :
    TokOK root rk P R (.ref parts) :=
  tokOK_ref_lits hp hP hr

/-- A reference — also one with references nested inside its path text, `${a:${b}}` — whose
path text renders to `p` in one run (any fuel, any state) renders to `p` in every run; it
satisfies `TokOK` at every rank above `rk p` when the nested references have rank `< rk p`. -/
theorem nested_ref_ok {root : Mapping} {rk : Str → Nat} {P : Str → Prop} {parts : List Token}
    {p : Str} {R m : Nat} {st0 : RState} (hrun : slice m root parts st0 = .ok p) (hP : P p)
    (hr : rk p < R) (hparts : TokOKs root rk P (rk p) parts) : TokOK root rk P R (.ref parts) :=
  tokOK_ref_of_run hrun hP hr hparts

/-- **Checked instance.**  The hypotheses are decidable against a finite rank table `tab`
(path text ↦ rank): `stratB root fuel tab` checks `Strat`, `valB … R root.toValue` checks that
every reference in the parameters is listed with rank `< R`.  Literal path texts are read off
the token; the path text of a nested reference is computed by one run of
`interpolate_token_slice` with `fuel` (`fuel = 0` suffices when there are no nested references).
If both checks pass and `R ≤ 64`, `render_parameters` never reports a loop or a depth error. -/
theorem checked_render_no_loop {root : Mapping} {fuel : Nat} {tab : List (Str × Nat)} {R : Nat}
    (h1 : stratB root fuel tab = true)
    (h2 : valB root fuel (rkT tab) (inT tab) R root.toValue = true)
    (hR : R ≤ maxDepth) (n : Nat) : NoLoopNoDepth (renderParamsF n root) :=
  stratified_render_no_loop (stratB_sound h1) hR (valB_sound R _ h2) n

/-- Checked instance for a single value interpolated from the initial state. -/
theorem checked_interp_no_loop {root : Mapping} {fuel : Nat} {tab : List (Str × Nat)} {R : Nat}
    {v : Value} (h1 : stratB root fuel tab = true)
    (h2 : valB root fuel (rkT tab) (inT tab) R v = true)
    (hR : R ≤ maxDepth) (n : Nat) : NoLoopNoDepth (interp n root v {}) :=
  stratified_no_loop (stratB_sound h1) (valB_sound R _ h2) (ok_initial _ hR) n

/-! ### A loop error needs a repeated path on one chain -/

/-- **Where `Token::resolve` can report a loop.**  If resolving the reference `parts` in state
`st` gives `Err.loop`, then either the rendered path is already in `st.seen` (a direct hit), or
the error was handed up unchanged from a sub-call: rendering the path text, descending into
the target with the path added to `seen`, or the final interpolation loop. -/
theorem loop_needs_repeat {n : Nat} {root : Mapping} {parts : List Token} {st : RState}
    (h : tokResolve (n+1) root (.ref parts) st = .error .loop) :
    slice n root parts { st with depth := st.depth + 1 } = .error .loop ∨
    ∃ path, slice n root parts { st with depth := st.depth + 1 } = .ok path ∧
      (path ∈ st.seen ∨
       (path ∉ st.seen ∧ ∃ k0 segs v0, splitColon path = k0 :: segs ∧
          root.get (.str k0) = some v0 ∧
          (descend n root v0 segs
              { st with depth := st.depth + 1, seen := path :: st.seen } path = .error .loop ∨
           ∃ v st3, descend n root v0 segs
              { st with depth := st.depth + 1, seen := path :: st.seen } path = .ok (v, st3) ∧
             finalLoop n root v st3 = .error .loop))) :=
  (tokResolve_ref_loop h).2

/-- **Every reported loop is a repeated path on one chain.**  If `Value::interpolate` started
in state `st` reports `Err.loop`, then somewhere below a reference was resolved in a state `st'`
that extends `st` along the chain of calls (at least as deep, at least the same `seen` paths —
sibling list elements, mapping values, layers and token pieces only ever receive copies of
their parent's state), below the depth limit, whose path text rendered to a `path` that was
already in `st'.seen`. -/
theorem loop_origin {n : Nat} {root : Mapping} {v : Value} {st : RState}
    (h : interp n root v st = .error .loop) :
    ∃ (m : Nat) (parts : List Token) (st' : RState) (path : Str),
      st.depth ≤ st'.depth ∧ st.seen ⊆ st'.seen ∧ st'.depth + 1 ≤ maxDepth ∧
      slice m root parts { st' with depth := st'.depth + 1 } = .ok path ∧ path ∈ st'.seen :=
  (lInv root n).interp v st h

/-- The hit of `loop_origin` is itself a loop report of `Token::resolve`. -/
theorem loop_origin_is_reported {m : Nat} {root : Mapping} {parts : List Token} {st' : RState}
    {path : Str} (hd : st'.depth + 1 ≤ maxDepth)
    (hs : slice m root parts { st' with depth := st'.depth + 1 } = .ok path)
    (hm : path ∈ st'.seen) : tokResolve (m+1) root (.ref parts) st' = .error .loop :=
  seen_blocks m root parts st' path hd hs hm

/-- Contrapositive of `stratified_no_loop`: when a loop (or depth) error *is* reported, no rank
function stratifies the root for that value and state — the reference graph reachable from the
value has a cycle at the level of path texts, or needs more nesting than the state has room for. -/
theorem reported_loop_not_stratified {n : Nat} {root : Mapping} {v : Value} {st : RState}
    (h : interp n root v st = .error .loop ∨ ∃ c, interp n root v st = .error (.depth c)) :
    ¬ ∃ (rk : Str → Nat) (P : Str → Prop) (R : Nat),
        Strat root rk P ∧ RefsIn root rk P R v ∧ Ok rk R st := by
  rintro ⟨rk, P, R, hS, hv, hok⟩
  have := stratified_no_loop hS hv hok n
  rcases h with h | ⟨c, h⟩
  · exact this.1 h
  · exact this.2 c h

/-! ### Non-vacuity and concrete instances -/

private def S (s : String) : Value := .str s.toList
private def K (s : String) : Key := .str s.toList
private def T (s : String) (r : Nat) : Str × Nat := (s.toList, r)

def noLoopB {α : Type} : R α → Bool
  | .error .loop => false
  | .error (.depth _) => false
  | _ => true

/-- Diamond: `top → l, r → base`, with `top` embedding both arms. -/
def diamondRoot : Mapping :=
  ⟨[(K "top", S "${l}+${r}"), (K "l", S "${base}"), (K "r", S "${base}"), (K "base", S "v")], [], []⟩

def diamondTab : List (Str × Nat) := [T "base" 0, T "l" 1, T "r" 1]

example (n : Nat) : NoLoopNoDepth (renderParamsF n diamondRoot) :=
  checked_render_no_loop (fuel := 0) (tab := diamondTab) (R := 2) (by decide +kernel) (by decide +kernel)
    (by decide) n
example : rendersToJson 60 diamondRoot
    "{\"base\":\"v\",\"l\":\"v\",\"r\":\"v\",\"top\":\"v+v\"}" = true := rendersToJson_ofList (by decide +kernel)

/-- The same reference used many times: in a list, in one string, in mapping values, in nested
containers, in layers of a `ValueList`, and once more through a second key. -/
def manyRoot : Mapping :=
  ⟨[(K "a", S "x"),
    (K "b", .seq [S "${a}", S "${a}", S "${a}"]),
    (K "c", S "${a}${a}-${a}"),
    (K "d", .map [(K "p", S "${a}"), (K "q", S "${a}"), (K "r", .seq [S "${a}", S "pre ${a}"])] [] []),
    (K "e", .vl [S "${a}", S "${a}"]),
    (K "f", .vl [.map [(K "k", S "${a}")] [] [], .map [(K "k2", S "${a}"), (K "k", S "${c}")] [] []]),
    (K "g", .seq [S "${c}", S "${c}", S "${d}", S "${d:r}"])], [], []⟩

def manyTab : List (Str × Nat) := [T "a" 0, T "c" 1, T "d" 1, T "d:r" 1]

example (n : Nat) : NoLoopNoDepth (renderParamsF n manyRoot) :=
  checked_render_no_loop (fuel := 0) (tab := manyTab) (R := 2) (by decide +kernel) (by decide +kernel)
    (by decide) n
example : isOk (renderParamsF 80 manyRoot) = true := by decide +kernel

/-- 2-level sharing with nested paths, a path that ends inside a string value, and a reference
to a whole container that itself contains references. -/
def svcRoot : Mapping :=
  ⟨[(K "env", S "prod"),
    (K "svc", .map [(K "name", S "web"), (K "host", S "${env}.example"), (K "port", .num (.int 80)),
                    (K "url", S "http://${svc:host}:${svc:port}")] [] []),
    (K "app", .map [(K "name", S "${svc:name}-${env}"),
                    (K "urls", .seq [S "${svc:url}", S "${svc:url}/x", S "${svc:url}/y"])] [] []),
    (K "copy", S "${svc}"),
    (K "both", .seq [S "${copy}", S "${svc}", S "${copy:url}"])], [], []⟩

def svcTab : List (Str × Nat) :=
  [T "env" 0, T "svc:name" 0, T "svc:port" 0, T "svc:host" 1, T "svc:url" 2, T "svc" 3,
   T "copy" 4, T "copy:url" 4]

example (n : Nat) : NoLoopNoDepth (renderParamsF n svcRoot) :=
  checked_render_no_loop (fuel := 0) (tab := svcTab) (R := 5) (by decide +kernel) (by decide +kernel)
    (by decide) n
example : isOk (renderParamsF 120 svcRoot) = true := by decide +kernel

-- the candidate false-loop shapes: a container target whose entries share a reference, reached
-- as a whole and through a path, with the container's own interpolation afterwards
def shareRoot : Mapping :=
  ⟨[(K "t", S "${m}"), (K "u", S "${m:a}"), (K "w", S "x ${m} ${m} ${m:a}"),
    (K "m", .map [(K "a", S "${x}"), (K "b", S "${x}")] [] []), (K "x", S "1")], [], []⟩

example (n : Nat) : NoLoopNoDepth (renderParamsF n shareRoot) :=
  checked_render_no_loop (fuel := 0) (tab := [T "x" 0, T "m:a" 1, T "m" 1]) (R := 2) (by decide +kernel)
    (by decide +kernel) (by decide) n
example : isOk (renderParamsF 80 shareRoot) = true := by decide +kernel

-- a mapping that refers into itself without a cycle of paths: `a:b → a:c`
example (n : Nat) : NoLoopNoDepth (renderParamsF n
    ⟨[(K "a", .map [(K "b", S "${a:c}"), (K "c", S "1")] [] []), (K "t", S "${a}")], [], []⟩) :=
  checked_render_no_loop (fuel := 0) (tab := [T "a:c" 0, T "a" 1]) (R := 2) (by decide +kernel)
    (by decide +kernel) (by decide) n

/-- Layered parameters as produced by merging classes: `app` is defined in two classes, the
second one refers to entries of the first through `app:…` paths (so the layer list as a whole
refers into itself, but no path needs itself). -/
def layeredRoot : Mapping :=
  ⟨[(K "app", .vl [.map [(K "name", S "x"), (K "port", .num (.int 80))] [] [],
                   .map [(K "url", S "${app:name}.com:${app:port}"), (K "alias", S "${app:url}")] [] []]),
    (K "site", S "${app:alias}/${app:url}"),
    (K "all", S "${app}")], [], []⟩

example (n : Nat) : NoLoopNoDepth (renderParamsF n layeredRoot) :=
  checked_render_no_loop (fuel := 8)
    (tab := [T "app:name" 0, T "app:port" 0, T "app:url" 1, T "app:alias" 2, T "app" 3]) (R := 4)
    (by decide +kernel) (by decide +kernel) (by decide) n
example : isOk (renderParamsF 80 layeredRoot) = true := by decide +kernel

/-- Nested references: the path text is itself computed from references (`${${n}}`,
`${svc:${key}}`), and the computed targets are shared. -/
def nestedRoot : Mapping :=
  ⟨[(K "n", S "m"), (K "m", S "1"), (K "key", S "port"),
    (K "svc", .map [(K "port", .num (.int 80)), (K "host", S "h")] [] []),
    (K "t", .seq [S "${${n}}", S "${${n}}-${m}", S "${svc:${key}}", S "${svc:${key}}/${svc:port}"])],
   [], []⟩

example (n : Nat) : NoLoopNoDepth (renderParamsF n nestedRoot) :=
  checked_render_no_loop (fuel := 12) (tab := [T "n" 0, T "key" 0, T "m" 1, T "svc:port" 1]) (R := 2)
    (by decide +kernel) (by decide +kernel) (by decide) n
example : rendersToJson 80 nestedRoot
    "{\"key\":\"port\",\"m\":\"1\",\"n\":\"m\",\"svc\":{\"host\":\"h\",\"port\":80},\"t\":[\"1\",\"1-1\",80,\"80/80\"]}" = true :=
  rendersToJson_ofList (by decide +kernel)

def chainTab (len : Nat) : List (Str × Nat) :=
  (List.range (len + 1)).map fun i => (nm i, len - i)

theorem isDepth_fuel_mono {n m : Nat} (hle : n ≤ m) {root : Mapping} {v : Value} {st : RState}
    (h : isDepth (interp n root v st) = true) : isDepth (interp m root v st) = true := by
  cases hr : interp n root v st with
  | ok p => rw [hr] at h; cases h
  | error e =>
    rw [hr] at h
    rw [fuel_mono hle root v st hr (by rintro ⟨⟩; cases h)]
    exact h

-- a chain whose head needs exactly 64 resolutions is covered by the theorem (R = 64 = the
-- documented limit) …
example (n : Nat) : NoLoopNoDepth (interp n (chainRoot 63 "end".toList)
    (.str ("${".toList ++ nm 0 ++ "}".toList)) {}) :=
  checked_interp_no_loop (fuel := 0) (tab := chainTab 63) (R := 64) (by decide +kernel) (by decide +kernel)
    (by decide) n

-- … one more link is a depth error, not a loop (so `R ≤ 64` cannot be relaxed)
example : isDepth (interp 280 (chainRoot 64 "end".toList)
    (.str ("${".toList ++ nm 0 ++ "}".toList)) {}) = true :=
  isDepth_fuel_mono (by decide) chain_65_is_depth

-- the checkers reject a genuine cycle for the obvious table (no table can pass, by
-- `reported_loop_not_stratified` and `cycle_is_loop`)
example : stratB ⟨[(K "a", S "${b}"), (K "b", S "${a}")], [], []⟩ 0 [T "a" 0, T "b" 1] = false := by
  decide +kernel

-- a cycle that only exists because a string value must be rendered as a whole: `s` needs all of
-- `m`, `m:b` needs `s:b`, which needs `s` again — reported as a loop, and rightly so
example : isLoop (renderParamsF 80
    ⟨[(K "u", S "${s:a}"), (K "s", S "${m}"),
      (K "m", .map [(K "a", S "${x}"), (K "b", S "${s:b}")] [] []), (K "x", S "1")], [], []⟩) = true := by
  decide +kernel

end C08
end Reclass
