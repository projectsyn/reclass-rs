/-
  C13c — Node names are data, not list syntax.

  Class and application LISTS of a node are `RemovableList`s / `UniqueList`s in which an entry
  `~x` means "remove `x`" (`RList.appendIfNew`, C17).  The inventory INDEXES
  (`Inventory::render`, `src/inventory.rs`: `entry(k).and_modify(|v| v.push(name))
  .or_insert(vec![name])`, model: `indexPush`) are plain vectors of node names: a node whose
  name happens to start with `~` (or `=`) is pushed literally, like any other node, and never
  removes the node with the stripped name from an entry.

  (An implementation that builds the index entries with the removable-list `append_if_new`
  would, for the node `~web1`, delete `web1` from every entry they share.)
-/
import Reclass.Props.C13
namespace Reclass
namespace C13

/-! ### 1. One push: literal, and nothing is removed -/

theorem ne_marker_cons (m : Char) (x : Str) : x ≠ m :: x := by
  intro h
  have := congrArg List.length h
  simp at this

/-- **`indexPush` appends the name literally**, whatever its first character: the entry of the
pushed key is the old entry followed by the name itself; other entries are unchanged. -/
theorem indexPush_literal (k k' name : Str) (ix : List (Str × List Str)) :
    ixLookup k (indexPush k name ix) = ixLookup k ix ++ [name] ∧
    (k ≠ k' → ixLookup k' (indexPush k name ix) = ixLookup k' ix) :=
  ⟨ixLookup_indexPush_self k name ix, fun h => ixLookup_indexPush_ne name ix h⟩

/-- **A push never removes anybody**: every name listed under any key before the push — in
particular `x` when the pushed name is `~x` — is still listed afterwards. -/
theorem indexPush_keeps_members (k k' name n : Str) (ix : List (Str × List Str))
    (h : n ∈ ixLookup k' ix) : n ∈ ixLookup k' (indexPush k name ix) := by
  rw [ixLookup_indexPush]; exact List.mem_append_left _ h

theorem mem_indexPush_iff (k k' name n : Str) (ix : List (Str × List Str)) :
    n ∈ ixLookup k' (indexPush k name ix) ↔ n ∈ ixLookup k' ix ∨ (k = k' ∧ n = name) := by
  rw [ixLookup_indexPush]
  by_cases hk : k = k' <;> simp [hk]

/-- Pushing `~x` (or `=x`, or `x` with any character in front) leaves the membership of `x`
itself exactly as it was: not removed, not added. -/
theorem indexPush_marker_name_keeps_plain (m : Char) (k k' x : Str) (ix : List (Str × List Str)) :
    x ∈ ixLookup k' (indexPush k (m :: x) ix) ↔ x ∈ ixLookup k' ix := by
  rw [mem_indexPush_iff]
  constructor
  · rintro (h | ⟨_, h⟩)
    · exact h
    · exact absurd h (ne_marker_cons m x)
  · exact Or.inl

/-- The re-sort after each node keeps every entry's members. -/
theorem sortAll_keeps_members (k n : Str) (ix : List (Str × List Str)) :
    n ∈ ixLookup k (sortAll ix) ↔ n ∈ ixLookup k ix := by
  rw [ixLookup_sortAll, mem_sortStrs]

/-! ### 2. The rendered inventory: a `~`-named node is indexed like any other -/

/-- **Every node is listed under each of its classes and applications under its own, literal
name** (instance of `class_index_inverse` / `app_index_inverse`), and is stored under that
name in the node map. -/
theorem index_contains_node {results : List (Str × R NodeInfoM)} {inv : InventoryM}
    (h : Inventory.render results = .ok inv) {n : Str} {info : NodeInfoM}
    (hn : (n, .ok info) ∈ results) :
    (∀ c ∈ info.classes, n ∈ ixLookup c inv.classes) ∧
    (∀ a ∈ info.apps, n ∈ ixLookup a inv.apps) ∧
    (n, info) ∈ inv.nodes :=
  ⟨fun c hc => (class_index_inverse h c n).2 ⟨info, hn, hc⟩,
   fun a ha => (app_index_inverse h a n).2 ⟨info, hn, ha⟩,
   ((nodes_exact h).2 n info).2 hn⟩

/-- **A node whose name starts with `~` or `=` appears in the index entry of each of its
classes and applications**, under the full name including the marker character.  (`m` is the
first character of the name — `'~'`, `'='`, or anything else: the statement does not depend on
it, which is the point.) -/
theorem index_contains_tilde_names {results : List (Str × R NodeInfoM)} {inv : InventoryM}
    (h : Inventory.render results = .ok inv) (m : Char) {x : Str} {info : NodeInfoM}
    (hn : (m :: x, .ok info) ∈ results) :
    (∀ c ∈ info.classes, (m :: x) ∈ ixLookup c inv.classes) ∧
    (∀ a ∈ info.apps, (m :: x) ∈ ixLookup a inv.apps) ∧
    (m :: x, info) ∈ inv.nodes :=
  index_contains_node h hn

theorem index_contains_tilde_and_const_names {results : List (Str × R NodeInfoM)}
    {inv : InventoryM} (h : Inventory.render results = .ok inv) {x : Str} {info : NodeInfoM} :
    ((('~' :: x), .ok info) ∈ results →
      (∀ c ∈ info.classes, ('~' :: x) ∈ ixLookup c inv.classes) ∧
      (∀ a ∈ info.apps, ('~' :: x) ∈ ixLookup a inv.apps)) ∧
    ((('=' :: x), .ok info) ∈ results →
      (∀ c ∈ info.classes, ('=' :: x) ∈ ixLookup c inv.classes) ∧
      (∀ a ∈ info.apps, ('=' :: x) ∈ ixLookup a inv.apps)) :=
  ⟨fun hn => ⟨(index_contains_tilde_names h '~' hn).1, (index_contains_tilde_names h '~' hn).2.1⟩,
   fun hn => ⟨(index_contains_tilde_names h '=' hn).1, (index_contains_tilde_names h '=' hn).2.1⟩⟩

/-- The marker is not stripped either: the stripped name `x` is listed under a class only on
account of a node that is really called `x`. -/
theorem stripped_name_not_listed {results : List (Str × R NodeInfoM)} {inv : InventoryM}
    (h : Inventory.render results = .ok inv) {x : Str}
    (hx : ∀ info, (x, .ok info) ∉ results) (k : Str) :
    x ∉ ixLookup k inv.classes ∧ x ∉ ixLookup k inv.apps :=
  ⟨fun hm => by obtain ⟨i, hi, _⟩ := (class_index_inverse h k x).1 hm; exact hx i hi,
   fun hm => by obtain ⟨i, hi, _⟩ := (app_index_inverse h k x).1 hm; exact hx i hi⟩

/-! ### 3. Adding a node never removes another node from any entry -/

theorem adding_node_renders {pre post : List (Str × R NodeInfoM)} {inv : InventoryM}
    (h : Inventory.render (pre ++ post) = .ok inv) (nm : Str) (info : NodeInfoM) :
    ∃ inv', Inventory.render (pre ++ (nm, .ok info) :: post) = .ok inv' := by
  apply succeeds_of_all_nodes_succeed
  intro p hp e he
  have hall : ¬ ∃ p ∈ pre ++ post, ∃ e, p.2 = .error e := by
    intro hex
    obtain ⟨e', he'⟩ := (fails_iff_some_node_fails _).2 hex
    rw [h] at he'; cases he'
  rcases List.mem_append.1 hp with hp | hp
  · exact hall ⟨p, List.mem_append_left _ hp, e, he⟩
  · rcases List.mem_cons.1 hp with rfl | hp
    · cases he
    · exact hall ⟨p, List.mem_append_right _ hp, e, he⟩

private theorem mem_insert_ok {pre post : List (Str × R NodeInfoM)} {nm n : Str}
    {info i : NodeInfoM} :
    (n, Except.ok i) ∈ pre ++ (nm, .ok info) :: post ↔
      (n, Except.ok i) ∈ pre ++ post ∨ (n = nm ∧ i = info) := by
  simp only [List.mem_append, List.mem_cons, Prod.mk.injEq, Except.ok.injEq, or_left_comm, or_comm]

/-- **Exact effect of an added node on every index entry.**  `inv` is the inventory without,
`inv'` the inventory with the node `nm` (inserted at any position of the iteration order).
A name `n` is listed under `k` in `inv'` iff it was listed in `inv`, or it is the new node and
the new node has `k`. -/
theorem adding_node_index_exact {pre post : List (Str × R NodeInfoM)} {nm : Str}
    {info : NodeInfoM} {inv inv' : InventoryM}
    (h : Inventory.render (pre ++ post) = .ok inv)
    (h' : Inventory.render (pre ++ (nm, .ok info) :: post) = .ok inv') (k n : Str) :
    (n ∈ ixLookup k inv'.classes ↔ n ∈ ixLookup k inv.classes ∨ (n = nm ∧ k ∈ info.classes)) ∧
    (n ∈ ixLookup k inv'.apps ↔ n ∈ ixLookup k inv.apps ∨ (n = nm ∧ k ∈ info.apps)) := by
  rw [class_index_inverse h', class_index_inverse h, app_index_inverse h', app_index_inverse h]
  have key : ∀ g : NodeInfoM → List Str,
      (∃ i, (n, Except.ok i) ∈ pre ++ (nm, .ok info) :: post ∧ k ∈ g i) ↔
        (∃ i, (n, Except.ok i) ∈ pre ++ post ∧ k ∈ g i) ∨ (n = nm ∧ k ∈ g info) := by
    intro g
    constructor
    · rintro ⟨i, hi, hk⟩
      rcases mem_insert_ok.1 hi with hi | ⟨rfl, rfl⟩
      · exact Or.inl ⟨i, hi, hk⟩
      · exact Or.inr ⟨rfl, hk⟩
    · rintro (⟨i, hi, hk⟩ | ⟨rfl, hk⟩)
      · exact ⟨i, mem_insert_ok.2 (Or.inl hi), hk⟩
      · exact ⟨info, mem_insert_ok.2 (Or.inr ⟨rfl, rfl⟩), hk⟩
  exact ⟨key (·.classes), key (·.apps)⟩

/-- **Adding a node never removes a node from any entry** (any name, any position). -/
theorem adding_node_keeps_members {pre post : List (Str × R NodeInfoM)} {nm : Str}
    {info : NodeInfoM} {inv inv' : InventoryM}
    (h : Inventory.render (pre ++ post) = .ok inv)
    (h' : Inventory.render (pre ++ (nm, .ok info) :: post) = .ok inv') (k n : Str) :
    (n ∈ ixLookup k inv.classes → n ∈ ixLookup k inv'.classes) ∧
    (n ∈ ixLookup k inv.apps → n ∈ ixLookup k inv'.apps) :=
  ⟨fun hm => ((adding_node_index_exact h h' k n).1).2 (Or.inl hm),
   fun hm => ((adding_node_index_exact h h' k n).2).2 (Or.inl hm)⟩

/-- **Adding the node `~x` (or `=x`) does not touch `x`**: under every class and every
application, `x` is listed afterwards iff it was listed before. -/
theorem adding_tilde_node_keeps_plain {pre post : List (Str × R NodeInfoM)} (m : Char) {x : Str}
    {info : NodeInfoM} {inv inv' : InventoryM}
    (h : Inventory.render (pre ++ post) = .ok inv)
    (h' : Inventory.render (pre ++ (m :: x, .ok info) :: post) = .ok inv') (k : Str) :
    (x ∈ ixLookup k inv'.classes ↔ x ∈ ixLookup k inv.classes) ∧
    (x ∈ ixLookup k inv'.apps ↔ x ∈ ixLookup k inv.apps) := by
  obtain ⟨hc, ha⟩ := adding_node_index_exact h h' k x
  constructor
  · rw [hc]
    exact ⟨fun hh => hh.elim id (fun hh => absurd hh.1 (ne_marker_cons m x)), Or.inl⟩
  · rw [ha]
    exact ⟨fun hh => hh.elim id (fun hh => absurd hh.1 (ne_marker_cons m x)), Or.inl⟩

private theorem occ_insert (g : NodeInfoM → List Str) (k : Str) (A B : List (Str × NodeInfoM))
    (p : Str × NodeInfoM) :
    occ g k (A ++ p :: B) = occ g k A ++ (List.replicate ((g p.2).count k) p.1 ++ occ g k B) := by
  simp [occ, List.flatMap_append, List.flatMap_cons]

private theorem occ_append (g : NodeInfoM → List Str) (k : Str) (A B : List (Str × NodeInfoM)) :
    occ g k (A ++ B) = occ g k A ++ occ g k B := by
  simp [occ, List.flatMap_append]

private theorem ixFold_insert_perm (g : NodeInfoM → List Str) (k : Str)
    (A B : List (Str × NodeInfoM)) (p : Str × NodeInfoM) :
    (ixLookup k (ixFold g (A ++ p :: B) [])).Perm
      (ixLookup k (ixFold g (A ++ B) []) ++ List.replicate ((g p.2).count k) p.1) := by
  rw [ixLookup_ixFold_eq, ixLookup_ixFold_eq, occ_insert, occ_append]
  have p1 := sortStrs_perm (occ g k A ++ (List.replicate ((g p.2).count k) p.1 ++ occ g k B))
  have p2 : (occ g k A ++ (List.replicate ((g p.2).count k) p.1 ++ occ g k B)).Perm
      ((occ g k A ++ occ g k B) ++ List.replicate ((g p.2).count k) p.1) := by
    rw [List.append_assoc]
    exact List.Perm.append_left _ List.perm_append_comm
  have p3 := ((sortStrs_perm (occ g k A ++ occ g k B)).symm).append_right
    (List.replicate ((g p.2).count k) p.1)
  exact p1.trans (p2.trans p3)

/-- With multiplicities: each entry of the bigger inventory is, up to order, the entry of the
smaller one plus one copy of the new node's name per occurrence of the key in its list — no
other name gains or loses an occurrence.  (Both entries are sorted, `lists_sorted_nodup`.) -/
theorem adding_node_entry_perm {pre post : List (Str × R NodeInfoM)} {nm : Str}
    {info : NodeInfoM} {inv inv' : InventoryM}
    (h : Inventory.render (pre ++ post) = .ok inv)
    (h' : Inventory.render (pre ++ (nm, .ok info) :: post) = .ok inv') (k : Str) :
    (ixLookup k inv'.classes).Perm
      (ixLookup k inv.classes ++ List.replicate (info.classes.count k) nm) ∧
    (ixLookup k inv'.apps).Perm
      (ixLookup k inv.apps ++ List.replicate (info.apps.count k) nm) := by
  obtain ⟨infos, _, hi, _, hc, ha⟩ := render_ok_inv h
  obtain ⟨infos', _, hi', _, hc', ha'⟩ := render_ok_inv h'
  have e : infos = pre.filterMap getOk ++ post.filterMap getOk := by
    rw [hi, List.filterMap_append]
  have e' : infos' = pre.filterMap getOk ++ (nm, info) :: post.filterMap getOk := by
    rw [hi', List.filterMap_append, List.filterMap_cons]; rfl
  rw [hc, ha, hc', ha', e, e']
  exact ⟨ixFold_insert_perm (·.classes) k _ _ (nm, info),
         ixFold_insert_perm (·.apps) k _ _ (nm, info)⟩

/-! ### Non-vacuity: `web1` and `~web1` sharing an application -/

section Examples

private def S (s : String) : Str := s.toList

private def web : NodeInfoM :=
  { nmeta := {}, apps := [S "nginx"], classes := [S "base"], params := {} }
private def tildeWeb : NodeInfoM :=
  { nmeta := {}, apps := [S "nginx", S "backup"], classes := [S "base"], params := {} }

private def appsOf' (r : R InventoryM) : List (Str × List Str) :=
  match r with | .ok inv => inv.apps | .error _ => []
private def classesOf' (r : R InventoryM) : List (Str × List Str) :=
  match r with | .ok inv => inv.classes | .error _ => []
private def namesOf' (r : R InventoryM) : List Str :=
  match r with | .ok inv => inv.nodes.map Prod.fst | .error _ => []

/-- Both nodes are listed under the shared application `nginx` (sorted: `w` < `~`); `~web1`
alone under `backup`; `web1` has not been removed from anything. -/
example : appsOf' (Inventory.render [(S "web1", .ok web), (S "~web1", .ok tildeWeb)]) =
    [(S "nginx", [S "web1", S "~web1"]), (S "backup", [S "~web1"])] := by
  simp only [Inventory.render, Inventory.collect, sortAll, sortStrs_eq_insSort, appsOf']
  decide +kernel

/-- The other iteration order gives the same entries (keys in first-seen order). -/
example : appsOf' (Inventory.render [(S "~web1", .ok tildeWeb), (S "web1", .ok web)]) =
    [(S "nginx", [S "web1", S "~web1"]), (S "backup", [S "~web1"])] := by
  simp only [Inventory.render, Inventory.collect, sortAll, sortStrs_eq_insSort, appsOf']
  decide +kernel

example : classesOf' (Inventory.render [(S "web1", .ok web), (S "~web1", .ok tildeWeb)]) =
    [(S "base", [S "web1", S "~web1"])] := by
  simp only [Inventory.render, Inventory.collect, sortAll, sortStrs_eq_insSort, classesOf']
  decide +kernel

example : namesOf' (Inventory.render [(S "web1", .ok web), (S "~web1", .ok tildeWeb)]) =
    [S "web1", S "~web1"] := by
  decide +kernel

/-- A `=`-named node as well (`=` sorts before letters). -/
example : appsOf' (Inventory.render
    [(S "web1", .ok web), (S "=web1", .ok web), (S "~web1", .ok web)]) =
    [(S "nginx", [S "=web1", S "web1", S "~web1"])] := by
  simp only [Inventory.render, Inventory.collect, sortAll, sortStrs_eq_insSort, appsOf']
  decide +kernel

/-- Without the `~web1` node: the entry it is added to. -/
example : appsOf' (Inventory.render [(S "web1", .ok web)]) = [(S "nginx", [S "web1"])] := by
  decide +kernel

/-- The single push, literally. -/
example : indexPush (S "nginx") (S "~web1") [(S "nginx", [S "web1"])] =
    [(S "nginx", [S "web1", S "~web1"])] := by decide +kernel

/-- Contrast — this is what the removable LIST does with the same two strings (C17): `~web1`
removes `web1`.  The index must not behave like this. -/
example : (RList.ofList [S "web1", S "~web1"]).items = [] := by decide +kernel

example (inv inv' : InventoryM)
    (h : Inventory.render ([(S "web1", .ok web)] ++ []) = .ok inv)
    (h' : Inventory.render ([(S "web1", .ok web)] ++ (S "~web1", .ok tildeWeb) :: []) = .ok inv') :
    S "~web1" ∈ ixLookup (S "nginx") inv'.apps ∧ S "web1" ∈ ixLookup (S "nginx") inv'.apps := by
  have hweb : S "web1" ∈ ixLookup (S "nginx") inv.apps :=
    (index_contains_node h (n := S "web1") (info := web) (by simp)).2.1 _ (by decide +kernel)
  refine ⟨?_, ((adding_tilde_node_keeps_plain '~' (x := S "web1") h h' (S "nginx")).2).2 hweb⟩
  exact (index_contains_tilde_names h' '~' (x := S "web1") (info := tildeWeb)
    (by simp [S])).2.1 _ (by decide +kernel)

end Examples

end C13
end Reclass
