/-
  C17 — Application lists accumulate in merge order with ~ negation.

  All statements are about the model functions `RList.handleNegation / appendIfNew / merge /
  ofList` (`src/list/removable.rs`), for every list and every entry.
-/
import Reclass.Lemmas.Lists
namespace Reclass
namespace C17

def Inv (l : RList) : Prop :=
  l.items.Nodup ∧ l.negs.Nodup ∧ ∀ x, x ∈ l.items → x ∉ l.negs

theorem inv_empty : Inv {} := by simp [Inv]

theorem handleNegation_inv (l : RList) (n : Str) (h : Inv l) : Inv (l.handleNegation n) := by
  obtain ⟨hi, hn, hd⟩ := h
  unfold RList.handleNegation
  by_cases h1 : n ∈ l.items
  · simp only [h1, if_true]
    refine ⟨nodup_removeFirst hi, hn, ?_⟩
    intro x hx
    exact hd x ((mem_removeFirst_of_nodup hi).1 hx).1
  · by_cases h2 : n ∈ l.negs
    · simp only [h1, h2, if_true, if_false]; exact ⟨hi, hn, hd⟩
    · simp only [h1, h2, if_false]
      refine ⟨hi, nodup_append_singleton hn h2, ?_⟩
      intro x hx hmem
      rcases List.mem_append.1 hmem with hm | hm
      · exact hd x hx hm
      · simp at hm; subst hm; exact h1 hx

theorem inv_swap {l : RList} (h : Inv l) : Inv l.swap :=
  ⟨h.2.1, h.1, fun x hx hx' => h.2.2 x hx' hx⟩

theorem appendIfNew_inv (l : RList) (x : Str) (h : Inv l) : Inv (l.appendIfNew x) := by
  by_cases hx : ∃ n, x = '~' :: n
  · obtain ⟨n, rfl⟩ := hx
    exact handleNegation_inv l n h
  · rw [l.appendIfNew_plain fun n e => hx ⟨n, e⟩]
    exact inv_swap (handleNegation_inv _ _ (inv_swap h))

theorem foldl_handleNegation_inv (ns : List Str) (l : RList) (h : Inv l) :
    Inv (ns.foldl RList.handleNegation l) := by
  induction ns generalizing l with
  | nil => exact h
  | cons n ns ih => exact ih _ (handleNegation_inv l n h)

theorem foldl_appendIfNew_inv (xs : List Str) (l : RList) (h : Inv l) :
    Inv (xs.foldl RList.appendIfNew l) := by
  induction xs generalizing l with
  | nil => exact h
  | cons x xs ih => exact ih _ (appendIfNew_inv l x h)

/-- Every list built from raw entries satisfies the invariant. -/
theorem ofList_inv (xs : List Str) : Inv (RList.ofList xs) :=
  foldl_appendIfNew_inv xs {} inv_empty

/-- Merging any list (well-formed or not) into a well-formed list keeps the invariant. -/
theorem merge_inv (l other : RList) (h : Inv l) : Inv (l.merge other) :=
  foldl_appendIfNew_inv _ _ (foldl_handleNegation_inv _ _ h)

/-- **Invariant for every history**: after merging any sequence of per-file application
lists (any length, any entries) the accumulated list is duplicate-free, the pending
negations are duplicate-free, and the two are disjoint. -/
theorem accumulate_inv (files : List (List Str)) :
    Inv (files.foldl (fun acc f => acc.merge (RList.ofList f)) {}) := by
  suffices ∀ (acc : RList), Inv acc → Inv (files.foldl (fun acc f => acc.merge (RList.ofList f)) acc) from
    this {} inv_empty
  induction files with
  | nil => intro acc h; exact h
  | cons f fs ih => intro acc h; exact ih _ (merge_inv acc _ h)

/-! ### The four-way decision, stated outright -/

/-- `~n` with `n` present erases it (and only it); pending negations are untouched. -/
theorem neg_present (l : RList) (n : Str) (h : Inv l) (hp : n ∈ l.items) :
    (l.appendIfNew ('~' :: n)).items = l.items.filter (fun y => y != n) ∧
    (l.appendIfNew ('~' :: n)).negs = l.negs := by
  simp only [RList.appendIfNew, RList.handleNegation, hp, if_true]
  exact ⟨removeFirst_eq_filter h.1, trivial⟩

/-- `~n` with `n` absent is remembered exactly once. -/
theorem neg_absent (l : RList) (n : Str) (hp : n ∉ l.items) :
    (l.appendIfNew ('~' :: n)).items = l.items ∧
    (l.appendIfNew ('~' :: n)).negs = if n ∈ l.negs then l.negs else l.negs ++ [n] := by
  simp only [RList.appendIfNew, RList.handleNegation, hp, if_false]
  by_cases h2 : n ∈ l.negs <;> simp [h2]

/-- A plain entry that is pending cancels the pending negation and adds nothing. -/
theorem add_pending (l : RList) (x : Str) (h : Inv l) (hx : x.head? ≠ some '~') (hp : x ∈ l.negs) :
    (l.appendIfNew x).items = l.items ∧
    (l.appendIfNew x).negs = l.negs.filter (fun y => y != x) := by
  rw [l.appendIfNew_plain fun n e => hx (by rw [e]; rfl)]
  exact (neg_present l.swap x (inv_swap h) hp).symm

/-- A plain entry that is not pending is pushed at the end iff it is new. -/
theorem add_plain (l : RList) (x : Str) (hx : x.head? ≠ some '~') (hp : x ∉ l.negs) :
    (l.appendIfNew x).negs = l.negs ∧
    (l.appendIfNew x).items = if x ∈ l.items then l.items else l.items ++ [x] := by
  rw [l.appendIfNew_plain fun n e => hx (by rw [e]; rfl)]
  exact neg_absent l.swap x hp

/-- Survivors keep their relative order: what remains of the old items is a sublist of
the old items, for any entry. -/
theorem survivors_keep_order (l : RList) (x : Str) :
    ((l.appendIfNew x).items.filter (fun y => decide (y ∈ l.items))).Sublist l.items := by
  unfold RList.appendIfNew
  split
  · unfold RList.handleNegation
    split
    · exact (List.filter_sublist).trans (removeFirst_sublist _ _)
    · split <;> exact List.filter_sublist
  · split
    · exact List.filter_sublist
    · split
      · exact List.filter_sublist
      · rename_i h2
        simp only [List.filter_append]
        have : List.filter (fun y => decide (y ∈ l.items)) [x] = [] := by simp [h2]
        rw [this, List.append_nil]
        exact List.filter_sublist

/-- A newly added item goes last. -/
theorem new_item_last (l : RList) (x : Str) (hnew : x ∉ l.items)
    (hin : x ∈ (l.appendIfNew x).items) : (l.appendIfNew x).items = l.items ++ [x] := by
  unfold RList.appendIfNew at hin ⊢
  split at hin
  · rename_i n
    unfold RList.handleNegation at hin
    split at hin
    · exact absurd ((removeFirst_sublist _ _).subset hin) hnew
    · split at hin <;> exact absurd hin hnew
  · split at hin
    · exact absurd hin hnew
    · rename_i h1
      simp only [hnew, if_false] at hin ⊢
      simp [h1]

theorem merge_eq (l other : RList) :
    l.merge other = other.items.foldl RList.appendIfNew (other.negs.foldl RList.handleNegation l) := rfl

/-! ### Non-vacuity -/

example : Inv (RList.ofList ["a".toList, "~b".toList, "b".toList, "c".toList]) ∧
    (RList.ofList ["a".toList, "~b".toList, "b".toList, "c".toList]).items = ["a".toList, "c".toList] := by
  constructor
  · exact ofList_inv _
  · decide

example : (({} : RList).merge (RList.ofList ["a".toList, "~b".toList])).merge (RList.ofList ["b".toList, "c".toList, "~a".toList])
    = { items := ["c".toList], negs := [] } := by decide +kernel

end C17
end Reclass
