/-
  C01 — Class loading order (`Node::render_impl`, `Node::render`; model: `renderImpl`,
  `walkClasses`, `renderNodeSrc` in `Model/Node`).

  "For every inventory, a node's rendered parameters, class list and application list are
  exactly what results from walking its include list depth-first (a class's own includes
  before the class itself), merging each class the first time it is reached and never again,
  and merging the node's own definitions last.  An include entry that contains references is
  resolved against the parameters merged from the classes that precede it and loads exactly
  the one class it resolves to."

  The specification vocabulary (the instrumented `walkClassesT`, the big-step `Walk`, the abstract
  traversal `Dfs`, `mergeSeq`) is in `Spec/Walk`.
-/
import Reclass.Lemmas.WalkL
namespace Reclass
namespace C01

/-! ### The instrumented walk is the model's walk -/

/-- Forgetting the trace of the instrumented walk gives the model functions: theorems about
`renderImplT` / `walkClassesT` are theorems about `renderImpl` / `walkClasses`. -/
theorem instrumented_is_model (n : Nat) (r : Inv) :
    (∀ self seen root, eraseTrace (renderImplT n r self seen root) = renderImpl n r self seen root) ∧
    (∀ loc l seen root, eraseTrace (walkClassesT n r loc l seen root) = walkClasses n r loc l seen root) :=
  ⟨fun self seen root => renderImplT_erase n r self seen root,
   fun loc l seen root => walkClassesT_erase n r loc l seen root⟩

/-- Every successful run of the (instrumented) model walk is a derivation of the big-step
specification `Walk`. -/
theorem walk_sound {n : Nat} {r : Inv} {loc : Option (List Str)} {l seen : List Str} {root : NodeM}
    {seen' : List Str} {root' : NodeM} {tr : List TraceEntry}
    (h : walkClassesT n r loc l seen root = .ok (seen', root', tr)) :
    Walk r loc l seen root seen' root' tr :=
  walkClassesT_sound h

/-- Conversely every derivation of `Walk` is realised by the model with enough fuel, and then
with every larger amount. -/
theorem walk_complete {r : Inv} {loc : Option (List Str)} {l seen : List Str} {root : NodeM}
    {seen' : List Str} {root' : NodeM} {tr : List TraceEntry}
    (h : Walk r loc l seen root seen' root' tr) :
    ∃ n, ∀ m, n ≤ m → walkClassesT m r loc l seen root = .ok (seen', root', tr) ∧
      walkClasses m r loc l seen root = .ok (seen', root') := by
  obtain ⟨n, hn⟩ := h.complete
  refine ⟨n, fun m hm => ?_⟩
  have := walkClassesT_mono_le hm hn (by simp)
  exact ⟨this, walkClasses_ok_iff.2 ⟨tr, this⟩⟩

/-- The walk is a function: inputs determine `seen'`, `root'` and the trace. -/
theorem walk_deterministic {r : Inv} {loc : Option (List Str)} {l seen : List Str} {root : NodeM}
    {s1 s2 : List Str} {r1 r2 : NodeM} {t1 t2 : List TraceEntry}
    (h1 : Walk r loc l seen root s1 r1 t1) (h2 : Walk r loc l seen root s2 r2 t2) :
    s1 = s2 ∧ r1 = r2 ∧ t1 = t2 :=
  h1.det h2

/-! ### 1. `seen` only grows -/

/-- `renderImpl` only ever appends to the list of classes seen. -/
theorem seen_monotone {n : Nat} {r : Inv} {self : NodeM} {seen : List Str} {root : NodeM}
    {seen' : List Str} {root' : NodeM} (h : renderImpl n r self seen root = .ok (seen', root')) :
    ∃ ext, seen' = seen ++ ext := by
  obtain ⟨tr, ht⟩ := renderImpl_ok_iff.1 h
  obtain ⟨root1, hw, _⟩ := renderImplT_sound ht
  obtain ⟨ext, he, _⟩ := hw.seen_ext
  exact ⟨ext, he⟩

theorem seen_monotone_walk {n : Nat} {r : Inv} {loc : Option (List Str)} {l seen : List Str} {root : NodeM}
    {seen' : List Str} {root' : NodeM} (h : walkClasses n r loc l seen root = .ok (seen', root')) :
    ∃ ext, seen' = seen ++ ext := by
  obtain ⟨tr, ht⟩ := walkClasses_ok_iff.1 h
  obtain ⟨ext, he, _⟩ := (walkClassesT_sound ht).seen_ext
  exact ⟨ext, he⟩

/-! ### 2. Each class is merged the first time it is reached and never again -/

/-- From any duplicate-free `seen`.  What was appended to `seen` is a permutation of the merged
names, not the same list: `seen` is the order of *entering*, the trace the order of *merging*. -/
theorem each_class_once_from {n : Nat} {r : Inv} {loc : Option (List Str)} {l seen : List Str} {root : NodeM}
    {seen' : List Str} {root' : NodeM} {tr : List TraceEntry}
    (h : walkClassesT n r loc l seen root = .ok (seen', root', tr)) (hn : seen.Nodup) :
    (tr.map Prod.fst).Nodup ∧ (∀ x ∈ tr.map Prod.fst, x ∉ seen) ∧ seen'.Nodup ∧
    ∃ ext, seen' = seen ++ ext ∧ ext.Perm (tr.map Prod.fst) := by
  have hw := walkClassesT_sound h
  exact ⟨(hw.trace_nodup hn).1, (hw.trace_nodup hn).2, hw.seen_nodup hn, hw.seen_ext⟩

/-- Started with nothing seen (as `renderNodeSrc` does): the trace has no duplicates, a name
is traced iff it ends up in `seen`, and every name in the final `seen` was merged exactly once. -/
theorem each_class_once {n : Nat} {r : Inv} {loc : Option (List Str)} {l : List Str} {root : NodeM}
    {seen' : List Str} {root' : NodeM} {tr : List TraceEntry}
    (h : walkClassesT n r loc l [] root = .ok (seen', root', tr)) :
    (tr.map Prod.fst).Nodup ∧ (∀ x, x ∈ tr.map Prod.fst ↔ x ∈ seen') ∧
    (∀ x ∈ seen', (tr.map Prod.fst).count x = 1) ∧ seen'.Perm (tr.map Prod.fst) := by
  obtain ⟨hnd, _, _, ext, he, hp⟩ := each_class_once_from h List.nodup_nil
  simp only [List.nil_append] at he
  subst he
  refine ⟨hnd, fun x => hp.mem_iff.symm, ?_, hp⟩
  intro x hx
  have h1 := List.nodup_iff_count.1 hnd x
  have h2 := List.count_pos_iff.2 (hp.mem_iff.1 hx)
  omega

/-! ### 3. Depth-first, a class's own includes before the class itself -/

/-- Walking a class = walking its include list, then merging the class. -/
theorem class_after_its_includes {n : Nat} {r : Inv} {cn : NodeM} {seen : List Str} {root : NodeM}
    {seen' : List Str} {root' : NodeM} {tr : List TraceEntry}
    (h : renderImplT (n+1) r cn seen root = .ok (seen', root', tr)) :
    ∃ root1, walkClassesT n r cn.loc cn.classes.items seen root = .ok (seen', root1, tr) ∧
      mergeInto cn root1 = .ok root' :=
  renderImplT_ok_inv h

/-- When an entry loads class `c`, the trace of the walk is: whatever `c`'s own includes
merged (`tr1`), then `c`, then whatever the later siblings merged (`tr2`) — and the siblings
are walked with the `seen` list and accumulator that `c`'s walk left behind. -/
theorem includes_before_class {n : Nat} {r : Inv} {loc : Option (List Str)} {cls c : Str}
    {rest seen : List Str} {root : NodeM} {cn : NodeM}
    {seen' : List Str} {root' : NodeM} {tr : List TraceEntry}
    (h : walkClassesT (n+1) r loc (cls :: rest) seen root = .ok (seen', root', tr))
    (h1 : resolveClassName defaultFuel root.params cls = .ok c) (hs : c ∉ seen)
    (h2 : readClass r loc c = .ok (some cn)) :
    ∃ seen1 root1 tr1 tr2,
      renderImplT n r cn (seen ++ [c]) root = .ok (seen1, root1, tr1) ∧
      walkClassesT n r loc rest seen1 root1 = .ok (seen', root', tr2) ∧
      tr = tr1 ++ (c, cn) :: tr2 :=
  walkClassesT_load_inv h h1 hs h2

/-- The same as an order statement on names: everything merged on behalf of `c`'s includes
comes before `c`, and `c` before everything merged on behalf of later siblings. -/
theorem includes_before_class_order {tr1 tr2 : List TraceEntry} {c : Str} {cn : NodeM}
    {x z : Str} (hx : x ∈ tr1.map Prod.fst) (hz : z ∈ tr2.map Prod.fst) :
    [x, c, z].Sublist ((tr1 ++ (c, cn) :: tr2).map Prod.fst) := by
  simp only [List.map_append, List.map_cons]
  have h1 : [x].Sublist (tr1.map Prod.fst) := List.singleton_sublist.2 hx
  have h2 : [z].Sublist (tr2.map Prod.fst) := List.singleton_sublist.2 hz
  exact h1.append (h2.cons_cons c)

/-! ### 4. The node's own definitions are merged last -/

/-- `renderNodeSrc` unfolded: the class walk runs over a base node that carries the node's
include list and the `_reclass_` parameter; the node's own parameters, applications and
classes are merged into the result of that walk afterwards, i.e. after every class; the
merged parameters are then rendered. -/
theorem node_merged_last {fuel : Nat} {r : Inv} {nmeta : MetaM} {src : ClassSrc} {info : NodeInfoM}
    (h : renderNodeSrc fuel r nmeta src = .ok info) :
    ∃ self rc bp seen root p,
      NodeM.ofSrc none src = .ok self ∧ nmeta.asReclass r.cfg = .ok rc ∧
      ({} : Mapping).insert (.str Extracted.reclassKey.toList) rc.toValue = .ok bp ∧
      renderImpl fuel r { classes := self.classes, params := bp } [] {} = .ok (seen, root) ∧
      root.params.merge self.params = .ok p ∧
      renderParamsF defaultFuel p = .ok info.params ∧
      info.apps = (root.apps.merge self.apps).items ∧
      info.classes = (root.classes.merge self.classes).items ∧
      info.nmeta = nmeta := by
  obtain ⟨self, rc, bp, seen, root, fin, e1, e2, e3, e4, e5, e6, e7, e8, e9⟩ := renderNodeSrc_ok h
  obtain ⟨m1, m2, m3, _⟩ := mergeInto_ok e5
  exact ⟨self, rc, bp, seen, root, fin.params, e1, e2, e3, e4, m1, e6, by rw [e7, m2], by rw [e8, m3], e9⟩

/-! ### 5. An entry is resolved once, against the parameters accumulated so far -/

/-- One step of the loop: the entry `cls` is resolved against `root.params` — the parameters
merged from the classes that precede it — to a single name `c`, and `readClass` is asked for
exactly `c`. -/
theorem entry_resolves_once (n : Nat) (r : Inv) (loc : Option (List Str)) (cls : Str) (rest seen : List Str)
    (root : NodeM) :
    walkClasses (n+1) r loc (cls :: rest) seen root =
      match resolveClassName defaultFuel root.params cls with
      | .error e => .error e
      | .ok c =>
        if c ∈ seen then walkClasses n r loc rest seen root
        else
          match readClass r loc c with
          | .error e => .error e
          | .ok none => walkClasses n r loc rest seen root
          | .ok (some cn) =>
            match renderImpl n r cn (seen ++ [c]) root with
            | .error e => .error e
            | .ok (seen', root') => walkClasses n r loc rest seen' root' :=
  walkClasses_cons n r loc cls rest seen root

/-- An entry without the reference marker `${` resolves to itself, whatever the parameters. -/
theorem entry_without_reference (fuel : Nat) (params : Mapping) {cls : Str}
    (h : strContains cls Extracted.classRefMarker.toList = false) :
    resolveClassName fuel params cls = .ok cls :=
  resolveClassName_of_no_marker fuel params h

/-- The parameters an entry is resolved against (`root1.params`, after walking the prefix `pre`)
are the merge, in trace order, of the classes merged before it. -/
theorem entry_resolved_against_preceding {r : Inv} {loc : Option (List Str)} {pre seen : List Str} {root : NodeM}
    {seen1 : List Str} {root1 : NodeM} {tr : List TraceEntry}
    (h : Walk r loc pre seen root seen1 root1 tr) :
    mergeParamsSeq root.params (tr.map (·.2.params)) = .ok root1.params := by
  have := mergeSeq_params h.mergeSeq_eq
  simpa [List.map_map, Function.comp_def] using this

/-! ### 6. The walk terminates on every include graph -/

/-- More fuel never changes an answer other than "out of fuel". -/
theorem walk_fuel_monotone {n m : Nat} (hle : n ≤ m) {r : Inv} :
    (∀ {self seen root res}, renderImpl n r self seen root = res → res ≠ .error .fuel →
      renderImpl m r self seen root = res) ∧
    (∀ {loc l seen root res}, walkClasses n r loc l seen root = res → res ≠ .error .fuel →
      walkClasses m r loc l seen root = res) :=
  ⟨fun h hne => renderImpl_mono_le hle h hne, fun h hne => walkClasses_mono_le hle h hne⟩

/-- **Termination, general form.**  Let `U` be any finite list of names containing every
name that an include entry can resolve to and load, let no class have more than `B` include
entries, and let resolving an entry never exhaust the evaluator's own fuel (`GoodInv`,
`GoodNode`).  Then `(|U| + 1) · (B + 2)` units of fuel suffice for the walk of any node,
from any `seen` and `root`, on any include graph — cyclic ones included: every descent adds
to `seen` a name of `U` that was not there. -/
theorem walk_terminates {r : Inv} {U : List Str} {B : Nat} (hr : GoodInv r U B)
    {self : NodeM} (hs : GoodNode r U B self) (seen : List Str) (root : NodeM) {n : Nat}
    (hn : (U.length + 1) * (B + 2) ≤ n) :
    renderImpl n r self seen root ≠ .error .fuel :=
  renderImpl_nofuel hr hs seen root hn

/-- **Termination, explicit bound for plain inventories.**  If all include entries are plain
names (no reference marker, no leading dot), then with `N` the number of classes of the
inventory and `B` the length of the longest include list (of any class file, or of the node),
`(N + 1) · (B + 2)` units of fuel suffice. -/
theorem walk_terminates_plain {r : Inv} (hr : PlainInv r) {self : NodeM}
    (hs : ∀ cls ∈ self.classes.items, PlainName cls) (seen : List Str) (root : NodeM) {n : Nat}
    (hn : (r.classes.length + 1) * (max (maxIncludes r) self.classes.items.length + 2) ≤ n) :
    renderImpl n r self seen root ≠ .error .fuel := by
  have hg : GoodInv r (r.classes.map (·.1)) (max (maxIncludes r) self.classes.items.length) :=
    plain_goodInv hr (Nat.le_max_left _ _)
  have hs' : GoodNode r (r.classes.map (·.1)) (max (maxIncludes r) self.classes.items.length) self :=
    ⟨Nat.le_max_right _ _, plain_goodList r self.loc hs⟩
  exact renderImpl_nofuel hg hs' seen root (by simpa using hn)

/-- Existential form: for a plain inventory the walk of any node has an answer. -/
theorem walk_terminates_exists {r : Inv} (hr : PlainInv r) {self : NodeM}
    (hs : ∀ cls ∈ self.classes.items, PlainName cls) (seen : List Str) (root : NodeM) :
    ∃ n, ∀ m, n ≤ m → renderImpl m r self seen root = renderImpl n r self seen root ∧
      renderImpl n r self seen root ≠ .error .fuel := by
  refine ⟨(r.classes.length + 1) * (max (maxIncludes r) self.classes.items.length + 2), fun m hm => ?_⟩
  have h := walk_terminates_plain hr hs seen root (Nat.le_refl _)
  exact ⟨renderImpl_mono_le hm rfl h, h⟩

/-! ### 7. Refinement to the abstract depth-first traversal; the result as a fold -/

/-- **The trace is the depth-first post-order.**  For an inventory all of whose include
entries are plain names, the names merged by the walk, in merge order, are exactly the
post-order emitted by the abstract traversal `Dfs` of the include graph `graphOf r` (with
ignored missing classes absent from the graph), and the final `seen` is its visited list. -/
theorem trace_eq_dfs {r : Inv} (hr : PlainInv r) {n : Nat} {loc : Option (List Str)} {l seen : List Str}
    {root : NodeM} {seen' : List Str} {root' : NodeM} {tr : List TraceEntry}
    (h : walkClassesT n r loc l seen root = .ok (seen', root', tr)) (hl : ∀ cls ∈ l, PlainName cls) :
    Dfs (graphOf r) l seen seen' (tr.map Prod.fst) :=
  (walkClassesT_sound h).dfs hr hl

/-- `Dfs` determines its result, so `trace_eq_dfs` pins the trace down: any post-order the
abstract traversal can produce *is* the trace. -/
theorem trace_eq_dfs_unique {r : Inv} (hr : PlainInv r) {n : Nat} {loc : Option (List Str)} {l seen : List Str}
    {root : NodeM} {seen' : List Str} {root' : NodeM} {tr : List TraceEntry}
    (h : walkClassesT n r loc l seen root = .ok (seen', root', tr)) (hl : ∀ cls ∈ l, PlainName cls)
    {vis po : List Str} (hd : Dfs (graphOf r) l seen vis po) :
    seen' = vis ∧ tr.map Prod.fst = po :=
  (trace_eq_dfs hr h hl).det hd

theorem dfs_computes {g : Str → Option (List Str)} {n : Nat} {l vis v po : List Str}
    (h : dfs n g l vis = some (v, po)) : Dfs g l vis v po :=
  dfs_sound n l vis v po h

/-- **The accumulated node is the fold of the trace** (with or without references in include
entries): `root'` is obtained from `root` by merging the traced classes, in trace order. -/
theorem root_eq_fold {n : Nat} {r : Inv} {loc : Option (List Str)} {l seen : List Str} {root : NodeM}
    {seen' : List Str} {root' : NodeM} {tr : List TraceEntry}
    (h : walkClassesT n r loc l seen root = .ok (seen', root', tr)) :
    mergeSeq root (tr.map Prod.snd) = .ok root' :=
  (walkClassesT_sound h).mergeSeq_eq

theorem params_classes_apps_eq_fold {n : Nat} {r : Inv} {loc : Option (List Str)} {l seen : List Str}
    {root : NodeM} {seen' : List Str} {root' : NodeM} {tr : List TraceEntry}
    (h : walkClassesT n r loc l seen root = .ok (seen', root', tr)) :
    mergeParamsSeq root.params (tr.map (·.2.params)) = .ok root'.params ∧
    root'.classes = tr.foldl (fun acc t => acc.merge t.2.classes) root.classes ∧
    root'.apps = tr.foldl (fun acc t => acc.merge t.2.apps) root.apps := by
  have hm := root_eq_fold h
  refine ⟨?_, ?_, ?_⟩
  · simpa [List.map_map, Function.comp_def] using mergeSeq_params hm
  · simpa [List.foldl_map] using mergeSeq_classes hm
  · simpa [List.foldl_map] using mergeSeq_apps hm

/-- Every traced class is the class its name denotes: it was obtained by `readClass` for that
name (from the location of some including class). -/
theorem trace_entries_loaded {r : Inv} {loc : Option (List Str)} {l seen : List Str} {root : NodeM}
    {seen' : List Str} {root' : NodeM} {tr : List TraceEntry}
    (h : Walk r loc l seen root seen' root' tr) :
    ∀ t ∈ tr, ∃ loc', readClass r loc' t.1 = .ok (some t.2) := by
  induction h with
  | nil => intro t ht; simp at ht
  | seen _ _ _ ih => exact ih
  | ignored _ _ _ _ ih => exact ih
  | load _ _ h2 _ _ _ ih1 ih2 =>
    intro t ht
    rcases List.mem_append.1 ht with h | h
    · exact ih1 t h
    · rcases List.mem_cons.1 h with h | h
      · subst h; exact ⟨_, h2⟩
      · exact ih2 t h

/-- For plain include entries a name denotes one class file, independently of the including
class: every traced class is what `readClass` returns for its name at the root location.  So
for plain inventories "each name once" (`each_class_once`) is "each class once". -/
theorem plain_trace_entries {r : Inv} (hr : PlainInv r) {loc : Option (List Str)} {l seen : List Str}
    {root : NodeM} {seen' : List Str} {root' : NodeM} {tr : List TraceEntry}
    (h : Walk r loc l seen root seen' root' tr) (hl : ∀ cls ∈ l, PlainName cls) :
    ∀ t ∈ tr, readClass r none t.1 = .ok (some t.2) := by
  induction h with
  | nil => intro t ht; simp at ht
  | seen _ _ _ ih => exact ih fun x hx => hl x (List.mem_cons_of_mem _ hx)
  | ignored _ _ _ _ ih => exact ih fun x hx => hl x (List.mem_cons_of_mem _ hx)
  | @load loc cls rest seen root c cn seen1 root1 tr1 root2 seen' root' tr2 h1 _ h2 _ _ _ ih1 ih2 =>
    have hp := hl cls (List.mem_cons_self ..)
    rw [resolveClassName_of_no_marker _ _ hp.1] at h1
    cases h1
    have hcn := hr loc cls cn h2
    rw [readClass_of_not_dot r loc hp.2] at h2
    intro t ht
    rcases List.mem_append.1 ht with h | h
    · exact ih1 hcn t h
    · rcases List.mem_cons.1 h with h | h
      · subst h; exact h2
      · exact ih2 (fun x hx => hl x (List.mem_cons_of_mem _ hx)) t h

/-! ### The property, end to end -/

/-- **C01 (soundness).**  Whenever a node renders, there is a trace `tr` of classes such that
* `tr` is the merge order of the depth-first walk of the node's include list started with
  nothing seen and an empty accumulator (`Walk`; by `each_class_once` no class occurs twice,
  by `includes_before_class` includes precede their includer, by `trace_eq_dfs` it is the
  DFS post-order);
* the final node is the in-order merge of: the traced classes, the base node (the node's
  class list and the `_reclass_` parameter), and **last** the node's own definitions;
* the reported parameters are the rendering of the merged parameters, the reported class
  and application lists are the merged lists. -/
theorem render_sound {fuel : Nat} {r : Inv} {nmeta : MetaM} {src : ClassSrc} {info : NodeInfoM}
    (h : renderNodeSrc fuel r nmeta src = .ok info) :
    ∃ self rc bp seen root0 tr fin,
      NodeM.ofSrc none src = .ok self ∧ nmeta.asReclass r.cfg = .ok rc ∧
      ({} : Mapping).insert (.str Extracted.reclassKey.toList) rc.toValue = .ok bp ∧
      Walk r none self.classes.items [] {} seen root0 tr ∧
      mergeSeq {} (tr.map Prod.snd ++ [{ classes := self.classes, params := bp }, self]) = .ok fin ∧
      renderParamsF defaultFuel fin.params = .ok info.params ∧
      info.apps = fin.apps.items ∧ info.classes = fin.classes.items ∧ info.nmeta = nmeta := by
  obtain ⟨self, rc, bp, seen, root, fin, e1, e2, e3, e4, e5, e6, e7, e8, e9⟩ := renderNodeSrc_ok h
  obtain ⟨tr, ht⟩ := renderImpl_ok_iff.1 e4
  obtain ⟨root0, hw, hm⟩ := renderImplT_sound ht
  refine ⟨self, rc, bp, seen, root0, tr, fin, e1, e2, e3, hw, ?_, e6, e7, e8, e9⟩
  rw [mergeSeq_append, hw.mergeSeq_eq]
  simp only [mergeSeq, hm, e5]

/-- **C01 (completeness).**  Conversely, if the walk of the node's include list has a result
and the final merges and the rendering succeed, the node renders — with every sufficiently
large amount of fuel — to exactly that. -/
theorem render_complete {r : Inv} {nmeta : MetaM} {src : ClassSrc}
    {self : NodeM} {rc bp : Mapping} {seen : List Str} {root0 : NodeM} {tr : List TraceEntry} {fin : NodeM}
    {p : Mapping}
    (e1 : NodeM.ofSrc none src = .ok self) (e2 : nmeta.asReclass r.cfg = .ok rc)
    (e3 : ({} : Mapping).insert (.str Extracted.reclassKey.toList) rc.toValue = .ok bp)
    (hw : Walk r none self.classes.items [] {} seen root0 tr)
    (hm : mergeSeq root0 [{ classes := self.classes, params := bp }, self] = .ok fin)
    (e6 : renderParamsF defaultFuel fin.params = .ok p) :
    ∃ n, ∀ fuel, n ≤ fuel → renderNodeSrc fuel r nmeta src =
      .ok { nmeta := nmeta, apps := fin.apps.items, classes := fin.classes.items, params := p } := by
  obtain ⟨n, hn⟩ := hw.complete
  simp only [mergeSeq] at hm
  cases hb : mergeInto { classes := self.classes, params := bp } root0 with
  | error e => simp [hb] at hm
  | ok root =>
    simp only [hb] at hm
    cases h5 : mergeInto self root with
    | error e => simp [h5] at hm
    | ok fin' =>
      simp only [h5, Except.ok.injEq] at hm
      subst hm
      refine ⟨n+1, fun fuel hf => ?_⟩
      have hT : renderImplT (n+1) r { classes := self.classes, params := bp } [] {} = .ok (seen, root, tr) := by
        rw [renderImplT_succ]; simp only [hn, hb]
      have hR := renderImpl_ok_iff.2 ⟨tr, renderImplT_mono_le hf hT (by simp)⟩
      exact renderNodeSrc_of_parts e1 e2 e3 hR h5 e6

/-! ### Non-vacuity: a diamond `a → c ← b` and a mutual include `x ⇄ y` -/

def exInfo (p : String) : EntityInfo := { path := [p.toList], loc := [] }
def exClass (incs : List String) (k v : String) : FileRes :=
  .ok { classes := incs.map String.toList, params := [(.str k.toList, .str v.toList)] }

def exInv : Inv :=
  { classes :=
      [ ("a".toList, exInfo "a.yml", exClass ["c"] "ka" "a"),
        ("b".toList, exInfo "b.yml", exClass ["c", "x"] "kb" "b"),
        ("c".toList, exInfo "c.yml", exClass [] "kc" "c"),
        ("x".toList, exInfo "x.yml", exClass ["y"] "kx" "x"),
        ("y".toList, exInfo "y.yml", exClass ["x", "a"] "ky" "y") ] }

/-- (final `seen`, traced names, keys of the accumulated parameters) of a run. -/
def summary (x : R (List Str × NodeM × List TraceEntry)) : Option (List Str × List Str × List Key) :=
  match x with
  | .ok (s, root, tr) => some (s, tr.map Prod.fst, root.params.es.map Prod.fst)
  | .error _ => none

/-- The walk of `[a, b]`: entered in the order `a c b x y`, merged in the order `c a y x b`
(`c` once although included twice; `x ⇄ y` terminates; `a` is not merged again from `y`),
and the parameters were merged in that same order. -/
example : summary (walkClassesT 20 exInv none ["a".toList, "b".toList] [] {}) =
    some (["a", "c", "b", "x", "y"].map String.toList, ["c", "a", "y", "x", "b"].map String.toList,
          ["kc", "ka", "ky", "kx", "kb"].map (fun s => Key.str s.toList)) := by decide +kernel

/-- The abstract traversal of the include graph gives the same visited list and post-order. -/
example : dfs 20 (graphOf exInv) ["a".toList, "b".toList] [] =
    some (["a", "c", "b", "x", "y"].map String.toList, ["c", "a", "y", "x", "b"].map String.toList) := by decide +kernel

/-- The fuel bound of `walk_terminates_plain` for this inventory is `(5+1)·(2+2) = 24`. -/
example : (exInv.classes.length + 1) * (max (maxIncludes exInv) 2 + 2) = 24 := by decide

/-- Too little fuel is reported as such (so `≠ .error .fuel` is not vacuous). -/
example : summary (walkClassesT 10 exInv none ["a".toList, "b".toList] [] {}) = none := by decide +kernel

def exMeta : MetaM :=
  { node := "n".toList, name := "n".toList, uri := [], environment := "base".toList, parts := ["n".toList] }

def nodeSummary (x : R NodeInfoM) : Option (List Str × List Str × List Key) :=
  match x with
  | .ok i => some (i.classes, i.apps, i.params.es.map Prod.fst)
  | .error _ => none

/-- End to end through `renderNodeSrc`: node `n` includes `[a, b]`, has one application and
one parameter.  Parameters are merged in the order `c a y x b`, then `_reclass_`, then the
node's own `kn` last. -/
example : nodeSummary (renderNodeSrc 30 exInv exMeta
    { classes := ["a".toList, "b".toList], apps := ["app".toList],
      params := [(.str "kn".toList, .str "n".toList)] }) =
    some (["c", "x", "a", "y", "b"].map String.toList, ["app".toList],
      ["kc", "ka", "ky", "kx", "kb", "_reclass_", "kn"].map (fun s => Key.str s.toList)) := by
  decide +kernel

/-! ### A corner case: "once" is per resolved *name*, not per class file

`seen` holds the names include entries resolve to; `readClass` makes a name absolute only
afterwards.  A reference can therefore resolve to a second spelling of a class that was
already merged (here `.a`, which at the root location denotes the class `a`), and the class
file is then loaded and merged a second time.  (The Rust code does the same: it checks
`seen.contains(&cls)` before `abs_class_name`.)  `each_class_once` is stated for names;
`plain_trace_entries` shows that for plain entries names and class files coincide. -/

def exInv2 : Inv :=
  { classes := [ ("a".toList, exInfo "a.yml", exClass [] "x" ".a") ] }

/-- Node list `[a, ${x}]` where `a` sets `x: .a`: the second entry resolves — against the
parameters merged from `a` — to `.a`, which is new to `seen`, and loads class `a` again. -/
example : summary (walkClassesT 20 exInv2 none ["a".toList, "${x}".toList] [] {}) =
    some (["a", ".a"].map String.toList, ["a", ".a"].map String.toList, [Key.str "x".toList]) := by decide +kernel

example : absClassName none ".a".toList = "a".toList := by decide

end C01
end Reclass
