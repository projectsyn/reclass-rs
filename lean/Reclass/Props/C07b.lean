/-
  C07b — C07 end to end: the parameters that `Reclass::render_node` (model: `renderNode`,
  `renderNodeSrc`) returns for a node are plain data at every position.

  C07 is about `render_parameters` on one well-formed mapping; here it is composed with the
  decoder, the include walk, the merges and the `_reclass_` metadata, for every inventory whose
  files decode from YAML with at most one leading `=`/`~` marker per key (`InvOK`).  The invariant
  carried through the walk is `WF ∧ NoNest` of the accumulated parameters (`Reclass.WFN`).
-/
import Reclass.Lemmas.E2EL
import Reclass.Props.C07
import Reclass.Props.C13
namespace Reclass
namespace C07

/-! ### The invariant `WF ∧ NoNest` through decoding, merging, walking -/

/-- **Decoding.** The parameters of a class or node file whose keys carry at most one marker are
well-formed and free of nested layer lists. -/
theorem ofSrc_wf {loc : Option (List Str)} {src : ClassSrc} {n : NodeM} (hs : SrcOK src)
    (h : NodeM.ofSrc loc src = .ok n) : WF n.params.toValue ∧ NoNest n.params.toValue :=
  ofSrc_wfn hs h

/-- `Mapping::merge` of mappings without nested layer lists has none: values collected under one
key become *one* layer list of non-layer-list values (`combine` splices). -/
theorem merge_noNest {a b c : Mapping} (ha : NoNest a.toValue) (hb : NoNest b.toValue)
    (h : Mapping.merge a b = .ok c) : NoNest c.toValue :=
  Reclass.merge_noNest ha hb h

/-- **Merging.** `Node::merge_into` keeps `WF ∧ NoNest` of the parameters. -/
theorem mergeInto_wf {self other root' : NodeM}
    (hs : WF self.params.toValue ∧ NoNest self.params.toValue)
    (ho : WF other.params.toValue ∧ NoNest other.params.toValue)
    (h : mergeInto self other = .ok root') :
    WF root'.params.toValue ∧ NoNest root'.params.toValue :=
  mergeInto_wfn hs ho h

/-- **The include walk.** For an `InvOK` inventory, `render_impl` started on an accumulator with
`WF ∧ NoNest` parameters (and a node with such parameters) ends with one — for every fuel, every
`seen` list, every include graph. -/
theorem walk_wf {r : Inv} (hr : InvOK r) {n : Nat} {self : NodeM} {seen : List Str} {root : NodeM}
    {seen' : List Str} {root' : NodeM}
    (hs : WF self.params.toValue ∧ NoNest self.params.toValue)
    (hroot : WF root.params.toValue ∧ NoNest root.params.toValue)
    (h : renderImpl n r self seen root = .ok (seen', root')) :
    WF root'.params.toValue ∧ NoNest root'.params.toValue :=
  renderImpl_wfn hr hs hroot h

/-- The same for the class loop alone. -/
theorem walkClasses_wf {r : Inv} (hr : InvOK r) {n : Nat} {loc : Option (List Str)}
    {l seen : List Str} {root : NodeM} {seen' : List Str} {root' : NodeM}
    (hroot : WF root.params.toValue ∧ NoNest root.params.toValue)
    (h : walkClasses n r loc l seen root = .ok (seen', root')) :
    WF root'.params.toValue ∧ NoNest root'.params.toValue :=
  walkClasses_wfn hr hroot h

/-- Fuel-free form on the big-step relation of `Spec/Walk`: the accumulator after the walk and
every class merged on the way have `WF ∧ NoNest` parameters. -/
theorem walk_wf_trace {r : Inv} (hr : InvOK r) {loc : Option (List Str)} {l seen : List Str}
    {root : NodeM} {seen' : List Str} {root' : NodeM} {tr : List TraceEntry}
    (h : Walk r loc l seen root seen' root' tr)
    (hroot : WF root.params.toValue ∧ NoNest root.params.toValue) :
    (WF root'.params.toValue ∧ NoNest root'.params.toValue) ∧
    ∀ t ∈ tr, WF t.2.params.toValue ∧ NoNest t.2.params.toValue :=
  Walk.wfn hr h hroot

/-- **`_reclass_`.** The mapping built by `NodeInfoMeta::as_reclass` is well-formed and free of
nested layer lists (strings, one sequence of strings, one mapping of those). -/
theorem asReclass_wf {m : MetaM} {cfg : NodeCfg} {rc : Mapping} (h : m.asReclass cfg = .ok rc) :
    WF rc.toValue ∧ NoNest rc.toValue :=
  asReclass_wfn h

/-- What is handed to the final `render_parameters` — the merge of all walked classes, the
`_reclass_` base and the node itself — is `WF ∧ NoNest`. -/
theorem renderNode_merged_wf {fuel : Nat} {r : Inv} {name : Str} {info : NodeInfoM} (hr : InvOK r)
    (h : renderNode fuel r name = .ok info) :
    ∃ fin : NodeM, (WF fin.params.toValue ∧ NoNest fin.params.toValue) ∧
      renderParamsF defaultFuel fin.params = .ok info.params ∧
      info.apps = fin.apps.items ∧ info.classes = fin.classes.items :=
  renderNode_fin_wfn hr h

/-! ### The rendered parameters of a node are plain data -/

/-- `renderNodeSrc` form (explicit node file and metadata). -/
theorem renderNodeSrc_closed {fuel : Nat} {r : Inv} {nmeta : MetaM} {src : ClassSrc}
    {info : NodeInfoM} (hr : InvOK r) (hs : SrcOK src)
    (h : renderNodeSrc fuel r nmeta src = .ok info) :
    Closed info.params.toValue ∧ WF info.params.toValue := by
  obtain ⟨fin, hfin, hp, _⟩ := renderNodeSrc_fin_wfn hr hs h
  exact render_closed hfin.1 hp

/-- **C07 end to end.** For every inventory whose files decode from YAML with at most one leading
marker per key, the parameters of every successfully rendered node contain no unresolved string
and no layer list at any position (only null, bool, number, literal string, sequence, mapping),
and every key of every mapping in them is free of `=`/`~` markers and unique — through the whole
include walk, for every fuel. -/
theorem renderNode_closed {fuel : Nat} {r : Inv} {name : Str} {info : NodeInfoM} (hr : InvOK r)
    (h : renderNode fuel r name = .ok info) :
    Closed info.params.toValue ∧ WF info.params.toValue := by
  obtain ⟨fin, hfin, hp, _⟩ := renderNode_fin_wfn hr h
  exact render_closed hfin.1 hp

/-- Rendering the rendered parameters of a node again changes nothing (`C07.render_idempotent`
applied end to end). -/
theorem renderNode_idempotent {fuel k : Nat} {r : Inv} {name : Str} {info : NodeInfoM}
    (hr : InvOK r) (h : renderNode fuel r name = .ok info) (hk : size info.params.toValue ≤ k) :
    ∃ out', renderParamsF k info.params = .ok out' ∧
      erase out'.toValue = erase info.params.toValue ∧
      (∀ x, x ∈ out'.ck ↔ x ∈ info.params.ck ∧ x ∈ keys info.params.es) ∧
      (∀ x, x ∈ out'.ok ↔ x ∈ info.params.ok ∧ x ∈ keys info.params.es) := by
  obtain ⟨hc, hw⟩ := renderNode_closed hr h
  exact render_idempotent hc hw hk

/-! ### The whole inventory -/

/-- **Every node stored in a rendered inventory has plain parameters**: if `Inventory::render`
succeeds on per-node results each of which came from `renderNode` on an `InvOK` inventory, every
stored node has `Closed ∧ WF` parameters. -/
theorem inventory_nodes_closed {results : List (Str × R NodeInfoM)} {inv : InventoryM}
    (h : Inventory.render results = .ok inv)
    (hres : ∀ name info, (name, .ok info) ∈ results →
      ∃ fuel r, InvOK r ∧ renderNode fuel r name = .ok info) :
    ∀ name info, (name, info) ∈ inv.nodes →
      Closed info.params.toValue ∧ WF info.params.toValue := by
  intro name info hmem
  obtain ⟨fuel, r, hr, hn⟩ := hres name info (((C13.nodes_exact h).2 name info).1 hmem)
  exact renderNode_closed hr hn

/-- The instance for `Reclass::render_inventory`: the results are `renderNode` of the discovered
node names of one `InvOK` inventory, in any order. -/
theorem render_inventory_closed {r : Inv} (hr : InvOK r) {fuel : Nat} {names : List Str}
    {inv : InventoryM}
    (h : Inventory.render (names.map fun n => (n, renderNode fuel r n)) = .ok inv) :
    ∀ name info, (name, info) ∈ inv.nodes →
      Closed info.params.toValue ∧ WF info.params.toValue :=
  inventory_nodes_closed h fun _ _ hmem => ⟨fuel, r, hr, mem_map_graph hmem⟩

/-! ### Non-vacuity -/

/-- The example inventory satisfies the hypothesis (checked by evaluation of `invOKB`). -/
example : InvOK exInvE2E := exInvE2E_ok

/-- Node `n1` of the example inventory renders (layers under `a` merged, `~b` overridden, the
references `${a:x}` and `${_reclass_:name:short}` resolved, the `=`/`~` markers gone) … -/
example : nodeJson (renderNode 30 exInvE2E "n1".toList) = some
    ("{\"_reclass_\":{\"environment\":\"base\",".toList ++
     "\"name\":{\"full\":\"n1\",\"parts\":[\"n1\"],".toList ++
     "\"path\":\"n1\",\"short\":\"n1\"}},".toList ++
     "\"a\":{\"x\":\"1\",\"y\":2,\"z\":\"n1\"},".toList ++ "\"b\":\"over\",".toList ++
     "\"k\":\"v\",\"l\":[\"1\",true,null]}".toList) := by
  -- the kernel evaluates `String.toList` of a literal in quadratic time; rewrite it to the character list first
  conv =>
    rhs
    rw [String.toList_ofList, String.toList_ofList, String.toList_ofList, String.toList_ofList,
      String.toList_ofList, String.toList_ofList]
  decide +kernel

/-- … so the conclusion of `renderNode_closed` holds for it. -/
example : ∃ info, renderNode 30 exInvE2E "n1".toList = .ok info ∧
    Closed info.params.toValue ∧ WF info.params.toValue := by
  cases h : renderNode 30 exInvE2E "n1".toList with
  | ok info => exact ⟨info, rfl, renderNode_closed exInvE2E_ok h⟩
  | error e =>
    have : nodeJson (renderNode 30 exInvE2E "n1".toList) ≠ none := by decide +kernel
    rw [h] at this; exact absurd rfl this

/-- The hypothesis `InvOK` rejects a doubly marked key … -/
example : ¬ SrcOK { params := [(.str "==a".toList, .null)] } := by
  simp only [SrcOK, SingleMarker, SingleMarkerEs, Yaml.keyOK]
  intro h; exact absurd h.1 (by decide)

/-- … and a marker hypothesis is needed end to end: with a class file
`{a: {x: true}, "===a": {x: false}}` the node renders *successfully*, but its parameters still
hold a layer list (cf. `C07.wf_needed`; decoding and the merge into the accumulator strip one
marker each, the stored key `=a` then collides with `a` during rendering), which `jsonOf`
refuses (`todo!()` in `From<Value> for serde_json::Value`). -/
def exInvTriple : Inv :=
  { classes := [("c".toList, { path := ["c.yml".toList], loc := [] },
      .ok { params := [(.str "a".toList, .map [(.str "x".toList, .bool true)]),
                       (.str "===a".toList, .map [(.str "x".toList, .bool false)])] })],
    nodes := [("n".toList, { path := ["n.yml".toList], loc := [] },
      .ok { classes := ["c".toList] })] }

example : TextL.errOf (renderNode 30 exInvTriple "n".toList) = none ∧
    TextL.errOf (match renderNode 30 exInvTriple "n".toList with
      | .ok info => jsonOf info.params.toValue
      | .error e => .error e) = some (.panic .jsonVl) := by decide +kernel

end C07
end Reclass
