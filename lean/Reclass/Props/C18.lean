/-
  C18 — … parameter `_reclass_` exposes environment `base` and name {full, short, parts,
  path}, where parts are the node's path segments (the name alone without composition, only
  the last segment below `_`-prefixed directories, the name split at dots when the
  literal-dots compatibility flag is set), path joins parts with `/` and short is the last
  part.

  The statements are about `MetaM.asReclass` (`NodeInfoMeta::as_reclass`,
  `src/node/nodeinfo.rs`) and the metadata that `renderNode` (`Reclass::render_node`) hands to it.
-/
import Reclass.Lemmas.NamingL
import Reclass.Lemmas.DecEq
namespace Reclass
namespace C18

/-- The parts reported for a node: with composition *and* the literal-dots flag, the node
name split at dots; otherwise, if the first path segment starts with `_`, only the last
segment; otherwise the path segments as they are.  (Definition `Reclass.expectedParts` in
`Lemmas/NamingL`, repeated here as a checked equation.) -/
theorem expectedParts_def (m : MetaM) (cfg : NodeCfg) :
    expectedParts m cfg =
      if cfg.composeNodeName && cfg.literalDots then splitOn '.' m.name
      else if m.parts.head?.bind List.head? = some '_' then [m.parts.getLast?.getD []]
      else m.parts := rfl

/-- With `m.parts = p0 :: rest` the `_` test looks at the first character of `p0`. -/
theorem expectedParts_cons (m : MetaM) (cfg : NodeCfg) (p0 : Str) (rest : List Str)
    (hp : m.parts = p0 :: rest) :
    expectedParts m cfg =
      if cfg.composeNodeName && cfg.literalDots then splitOn '.' m.name
      else if p0.head? = some '_' then [(p0 :: rest).getLast (by simp)]
      else p0 :: rest := by
  unfold expectedParts
  rw [hp]
  simp [List.getLast?_eq_some_getLast]

/-- `str::split` never returns an empty list. -/
theorem splitOn_ne_nil (sep : Char) (s : Str) : splitOn sep s ≠ [] := Reclass.splitOn_ne_nil sep s

/-- The reported parts are never empty (so `short` always exists). -/
theorem expectedParts_ne_nil (m : MetaM) (cfg : NodeCfg) (h : m.parts ≠ []) :
    expectedParts m cfg ≠ [] := Reclass.expectedParts_ne_nil cfg h

/-- **The `_reclass_` mapping.** For metadata with at least one path segment, `as_reclass`
succeeds; the result has `environment` = the environment, and `name` = a mapping with
`full` = the node name, `parts` = the expected parts (as a sequence of strings), `path` =
the parts joined with `/`, and `short` = the last part. -/
theorem parts_cases (m : MetaM) (cfg : NodeCfg) (p0 : Str) (rest : List Str) (hp : m.parts = p0 :: rest) :
    ∃ r nes nck nok, m.asReclass cfg = .ok r ∧
      lookup (.str "environment".toList) r.es = some (.str m.environment) ∧
      lookup (.str "name".toList) r.es = some (.map nes nck nok) ∧
      lookup (.str "full".toList) nes = some (.str m.name) ∧
      lookup (.str "parts".toList) nes = some (.seq ((expectedParts m cfg).map Value.str)) ∧
      lookup (.str "path".toList) nes = some (.str (joinWith ['/'] (expectedParts m cfg))) ∧
      lookup (.str "short".toList) nes =
        some (.str ((expectedParts m cfg).getLast (expectedParts_ne_nil m cfg (by rw [hp]; simp)))) := by
  have hne : m.parts ≠ [] := by rw [hp]; simp
  have hl : (expectedParts m cfg).getLast?.getD [] =
      (expectedParts m cfg).getLast (expectedParts_ne_nil m cfg hne) := by
    rw [List.getLast?_eq_some_getLast (expectedParts_ne_nil m cfg hne)]; rfl
  refine ⟨_, _, _, _, asReclass_eq cfg hne, rfl, rfl, rfl, rfl, rfl, ?_⟩
  rw [← hl]
  rfl

/-- The result holds exactly these two keys, and `name` exactly these four, in this order;
no key is marked constant or overriding. -/
theorem asReclass_shape (m : MetaM) (cfg : NodeCfg) (h : m.parts ≠ []) :
    m.asReclass cfg = .ok
      { es := [(.str "environment".toList, .str m.environment),
               (.str "name".toList,
                 .map [(.str "full".toList, .str m.name),
                       (.str "parts".toList, .seq ((expectedParts m cfg).map Value.str)),
                       (.str "path".toList, .str (joinWith ['/'] (expectedParts m cfg))),
                       (.str "short".toList, .str ((expectedParts m cfg).getLast?.getD []))] [] [])],
        ck := [], ok := [] } :=
  asReclass_eq cfg h

/-- Without any path segment `as_reclass` fails. -/
theorem asReclass_empty_parts (m : MetaM) (cfg : NodeCfg) (h : m.parts = []) :
    m.asReclass cfg = .error .metaParts := by
  unfold MetaM.asReclass
  rw [h]

/-! ### The three cases of `parts`, spelled out -/

/-- Without the literal-dots flag (or without composition) and with a first segment not
starting with `_`, parts are the path segments. -/
theorem parts_plain (m : MetaM) (cfg : NodeCfg) (h1 : (cfg.composeNodeName && cfg.literalDots) = false)
    (h2 : m.parts.head?.bind List.head? ≠ some '_') : expectedParts m cfg = m.parts := by
  unfold expectedParts; rw [h1, if_neg h2]; rfl

/-- Below a `_`-prefixed first segment only the last segment is reported. -/
theorem parts_underscore (m : MetaM) (cfg : NodeCfg) (h1 : (cfg.composeNodeName && cfg.literalDots) = false)
    (h2 : m.parts.head?.bind List.head? = some '_') :
    expectedParts m cfg = [m.parts.getLast?.getD []] := by
  unfold expectedParts; rw [h1, if_pos h2]; rfl

/-- With composition and the literal-dots flag, parts are the name split at dots. -/
theorem parts_literal_dots (m : MetaM) (cfg : NodeCfg) (h1 : cfg.composeNodeName = true)
    (h2 : cfg.literalDots = true) : expectedParts m cfg = splitOn '.' m.name := by
  unfold expectedParts; rw [h1, h2]; rfl

/-- Splitting a dotted name whose segments are dot-free gives the segments back, so for a
composed node name `a.b.c` the flag reports `[a, b, c]`. -/
theorem splitOn_join (segs : List Str) (hne : segs ≠ []) (h : ∀ s ∈ segs, ∀ c ∈ s, c ≠ '.') :
    splitOn '.' (joinWith ['.'] segs) = segs :=
  splitOn_joinWith hne h

/-! ### The metadata of a rendered node -/

/-- The `NodeInfoMeta` of a discovered node: node and name are the node name, the URI is
`yaml_fs://<nodes path>/<relative file path>`, the environment is `base`, and the parts
are the name alone without composition (no part at all for the empty name, which a file
`init.yml` directly in the nodes directory gets), else the relative path segments with the
extension dropped from the last one. -/
def expectedMeta (r : Inv) (name : Str) (info : EntityInfo) : MetaM :=
  { node := name
    name := name
    uri := "yaml_fs://".toList ++ r.cfg.nodesPath ++ "/".toList ++ joinWith "/".toList info.path
    environment := "base".toList
    parts := if r.cfg.composeNodeName then
        match info.path.reverse with
        | [] => []
        | last :: revInit => revInit.reverse ++ [stemNoExt last]
      else if name.isEmpty then [] else [name] }

/-- `render_node` renders a discovered node with exactly this metadata. -/
theorem render_meta (fuel : Nat) (r : Inv) (name : Str) (info : EntityInfo) (src : ClassSrc)
    (h : findEntity name r.nodes = some (info, .ok src)) :
    renderNode fuel r name = renderNodeSrc fuel r (expectedMeta r name info) src := by
  unfold renderNode
  rw [h]
  rfl

/-- Unknown nodes and unreadable node files are errors. -/
theorem render_meta_errors (fuel : Nat) (r : Inv) (name : Str) :
    (findEntity name r.nodes = none → renderNode fuel r name = .error (.unknownNode name)) ∧
    (∀ info w, findEntity name r.nodes = some (info, .bad w) → renderNode fuel r name = .error (.io w)) := by
  constructor
  · intro h; unfold renderNode; rw [h]
  · intro info w h; unfold renderNode; rw [h]

/-- With composition, a node file `dirs/stem.ext` (non-empty stem other than `.`, dot-free
extension) has parts `dirs ++ [stem]`. -/
theorem meta_parts_composed (r : Inv) (name : Str) (info : EntityInfo) (dirs : List Str) (stem ext : Str)
    (hc : r.cfg.composeNodeName = true) (hpath : info.path = dirs ++ [stem ++ '.' :: ext])
    (hne : stem ≠ []) (hdot : stem ≠ ['.']) (hext : ∀ c ∈ ext, c ≠ '.') :
    (expectedMeta r name info).parts = dirs ++ [stem] := by
  simp only [expectedMeta, hc, if_true, hpath, List.reverse_append, List.reverse_cons, List.reverse_nil,
    List.nil_append, List.singleton_append, List.reverse_reverse, stemNoExt_append hne hdot hext]

/-- Without composition the parts are the node name alone. -/
theorem meta_parts_plain (r : Inv) (name : Str) (info : EntityInfo) (hc : r.cfg.composeNodeName = false)
    (hn : name ≠ []) : (expectedMeta r name info).parts = [name] := by
  cases name with
  | nil => exact absurd rfl hn
  | cons c cs => simp [expectedMeta, hc]

/-- Without composition the reported parts of a rendered node are its name alone (and so
`path` and `short` are the name, too) — also when the name starts with `_`. -/
theorem meta_asReclass_plain (r : Inv) (name : Str) (info : EntityInfo) (hc : r.cfg.composeNodeName = false)
    (hn : name ≠ []) : expectedParts (expectedMeta r name info) r.cfg = [name] := by
  have hp := meta_parts_plain r name info hc hn
  unfold expectedParts
  rw [hc, hp]
  simp only [Bool.false_and, Bool.false_eq_true, if_false]
  split <;> rfl

/-- The node with the empty name (file `init.yml` directly in the nodes directory, no
composition) has no parts, so rendering its `_reclass_` data fails. -/
theorem meta_empty_name_fails (r : Inv) (info : EntityInfo) (hc : r.cfg.composeNodeName = false) :
    (expectedMeta r [] info).asReclass r.cfg = .error .metaParts := by
  apply asReclass_empty_parts
  simp [expectedMeta, hc]

/-! ### Non-vacuity -/

-- node file `d1/n.yml`, composition on: parts [d1, n], path d1/n, short n
example : ({ node := "d1.n".toList, name := "d1.n".toList, environment := "base".toList,
             parts := ["d1".toList, "n".toList] } : MetaM).asReclass { composeNodeName := true } =
    .ok { es := [(.str "environment".toList, .str "base".toList),
                 (.str "name".toList,
                   .map [(.str "full".toList, .str "d1.n".toList),
                         (.str "parts".toList, .seq [.str "d1".toList, .str "n".toList]),
                         (.str "path".toList, .str "d1/n".toList),
                         (.str "short".toList, .str "n".toList)] [] [])],
          ck := [], ok := [] } := by decide +kernel

-- below `_d1` only the last segment is reported
example : expectedParts { name := "n".toList, parts := ["_d1".toList, "n".toList] } { composeNodeName := true }
    = ["n".toList] := by decide
-- literal dots: the name is split at dots, whatever the path was
example : expectedParts { name := "a.b".toList, parts := ["d".toList, "a.b".toList] }
    { composeNodeName := true, literalDots := true } = ["a".toList, "b".toList] := by decide
-- the flag alone (without composition) changes nothing
example : expectedParts { name := "a.b".toList, parts := ["a.b".toList] } { literalDots := true }
    = ["a.b".toList] := by decide
example : ({ parts := [] } : MetaM).asReclass {} = .error .metaParts := by rfl

-- the metadata of node `n` in file `d1/n.yml` under nodes path `/inv/nodes`
example : expectedMeta { cfg := { nodesPath := "/inv/nodes".toList, composeNodeName := true } } "d1.n".toList
    { path := ["d1".toList, "n.yml".toList], loc := ["d1".toList] } =
    { node := "d1.n".toList, name := "d1.n".toList, uri := "yaml_fs:///inv/nodes/d1/n.yml".toList,
      environment := "base".toList, parts := ["d1".toList, "n".toList] } := by
  -- the kernel evaluates `String.toList` of a literal in quadratic time; rewrite it to the character list first
  repeat rw [String.toList_ofList]
  decide +kernel

end C18
end Reclass
