/-
  C02 (part b) — Layered parameters deep-merge.  For reference-free, marker-free layers (no
  `${…}` / `$[…]` in any string, no `=` key prefix; `~` only in section 5, at the top level)
  the evaluator refines `Spec/DeepMerge`: a fold of a binary `deep` over the layers into a
  parameter tree in which a conflict *poisons* the parameter it occurs at.  A finding
  (`nested_conflict_is_deferred`): a conflict inside a *member* of a mapping is only detected
  when that member is rendered, so a later `null` for the enclosing mapping discards it — not
  only "a later override of that very key" does.
-/
import Reclass.Lemmas.DeepMergeL
import Reclass.Props.C02a
namespace Reclass
namespace C02
open DeepMerge

/-! ### 1. A multiply-defined parameter renders to the deep merge of its layers -/

/-- **The layer list of a parameter interpolates to `deepAll` of its layers.**
`vs` are the reference-free layers of one parameter, in layer order, `root` any parameters,
`st` any resolve state (`st.cur` is the path of the parameter).  For all sufficiently large fuel,
`Value::interpolate` of the `ValueList` returns the deep merge of the (interpolated) layers and
the unchanged state — or exactly the conflict error the specification reports. -/
theorem vl_renders_deep (root : Mapping) {vs : List Value} (h : RefFreeL vs) (st : RState) :
    ∃ N, ∀ n, N ≤ n →
      interp n root (.vl vs) st =
        match deepAll st.cur (normL vs) with
        | .ok r => .ok (r, st)
        | .error e => .error e := by
  obtain ⟨N, c⟩ := vl_settles root h st
  exact ⟨N, fun n hn => (c n hn).trans (lift_eq st _)⟩

/-- The same for layers that contain no unparsed string at all (`Plain`): nothing is normalised. -/
theorem vl_renders_deep_plain (root : Mapping) {vs : List Value} (h : PlainL vs) (st : RState) :
    ∃ N, ∀ n, N ≤ n →
      interp n root (.vl vs) st =
        match deepAll st.cur vs with
        | .ok r => .ok (r, st)
        | .error e => .error e := by
  have := vl_renders_deep root (plainL_refFreeL vs h) st
  rwa [normL_plain vs h] at this

/-- The same for *every* amount of fuel with which the run finishes. -/
theorem vl_renders_deep_finished (root : Mapping) {vs : List Value} (h : RefFreeL vs)
    (st : RState) (n : Nat) (hn : interp n root (.vl vs) st ≠ .error .fuel) :
    interp n root (.vl vs) st =
      match deepAll st.cur (normL vs) with
      | .ok r => .ok (r, st)
      | .error e => .error e :=
  (settles_finished id (vl_settles root h st)
    (fun _ _ hab hne => interp_fuel_mono_le hab root _ st rfl hne) hn).trans (lift_eq st _)

/-- The rendered value is plain data again; an error is a merge conflict at the parameter's own
path or below it. -/
theorem deepAll_outcome (cur : List Str) {vs : List Value} (h : PlainL vs) :
    (∀ r, deepAll cur vs = .ok r → Plain r) ∧
    (∀ e, deepAll cur vs = .error e → ConflictBelow cur e) :=
  ⟨fun _ hr => deepAll_plain cur h hr, fun _ he => deepAll_error_below cur vs he⟩

/-! ### 2. Whole parameter mappings -/

/-- **Merging never fails.**  `Mapping::merge` of reference-free, flag-free layers always
succeeds: conflicts are not detected when layers are merged, only when the result is rendered. -/
theorem merge_never_fails {ms : List Mapping} (h : ∀ m ∈ ms, RefFreeLayer m) :
    ∃ M, mergeLayers {} ms = .ok M ∧ M.ck = [] ∧ M.ok = [] := by
  obtain ⟨es, a, _⟩ := mergeLayers_sim [] ms [] h trivial (by simp)
  exact ⟨⟨es, [], []⟩, a, rfl, rfl⟩

/-- For reference-free layers `ms` (class parameter mappings in merge order):
merging them one after the other with `Mapping::merge`, starting from the empty mapping, and
rendering the result (`render_parameters`) gives — for all sufficiently large fuel — exactly
`deepParams` of the interpolated layers: the same mapping (entries, order, empty flag sets) or
the same error. -/
theorem render_refines_deepMerge {ms : List Mapping} (h : ∀ m ∈ ms, RefFreeLayer m) :
    ∃ N, ∀ n, N ≤ n →
      (mergeLayers {} ms).bind (renderParamsF n) = deepParams (ms.map normLayer) :=
  params_settle h

/-- The same for layers without unparsed strings. -/
theorem render_refines_deepMerge_plain {ms : List Mapping} (h : ∀ m ∈ ms, PlainLayer m) :
    ∃ N, ∀ n, N ≤ n → (mergeLayers {} ms).bind (renderParamsF n) = deepParams ms := by
  have hn : ms.map normLayer = ms := by
    rw [List.map_congr_left (fun m hm => normLayer_plain (h m hm)), List.map_id']
  have := render_refines_deepMerge (fun m hm => plainLayer_refFree (h m hm))
  rwa [hn] at this

/-- The same for every amount of fuel with which the run finishes. -/
theorem render_refines_deepMerge_finished {ms : List Mapping} (h : ∀ m ∈ ms, RefFreeLayer m)
    (n : Nat) (hn : (mergeLayers {} ms).bind (renderParamsF n) ≠ .error .fuel) :
    (mergeLayers {} ms).bind (renderParamsF n) = deepParams (ms.map normLayer) :=
  settles_finished id (params_settle h) (bind_renderParams_mono _) hn

/-- In particular for the fuel the implementation model runs with. -/
theorem render_refines_deepMerge_default {ms : List Mapping} (h : ∀ m ∈ ms, RefFreeLayer m)
    (hn : (mergeLayers {} ms).bind (renderParamsF defaultFuel) ≠ .error .fuel) :
    (mergeLayers {} ms).bind (renderParamsF defaultFuel) = deepParams (ms.map normLayer) :=
  render_refines_deepMerge_finished h defaultFuel hn

/-- For layers with distinct keys:
* success: the keys of the result are the keys of all layers in the order of first
  appearance, both flag sets are empty, and under every key `k` that some layer writes stands
  `deepAll` of the values the layers write to `k`, in layer order (at path `k`);
* failure: the error is the error of the stack of some key;
* and `deepParams` succeeds as soon as every key's stack merges. -/
theorem deepParams_by_key {ms : List Mapping} (h : ∀ m ∈ ms, (keys m.es).Nodup) :
    (∀ out, deepParams ms = .ok out →
      keys out.es = keyOrder ms ∧ out.ck = [] ∧ out.ok = [] ∧
      ∀ k, (valuesAt k ms = [] → lookup k out.es = none) ∧
        (valuesAt k ms ≠ [] →
          ∃ r, deepAll [k.display] (valuesAt k ms) = .ok r ∧ lookup k out.es = some r)) ∧
    (∀ e, deepParams ms = .error e →
      ∃ k, valuesAt k ms ≠ [] ∧ deepAll [k.display] (valuesAt k ms) = .error e) ∧
    ((∀ k, valuesAt k ms ≠ [] → ∃ r, deepAll [k.display] (valuesAt k ms) = .ok r) →
      ∃ out, deepParams ms = .ok out) :=
  DeepMerge.deepParams_by_key h

/-- If merging and rendering reference-free layers
finishes with `out`, then `out` has the keys of all layers in order of first appearance and
under each key the deep merge of that key's (interpolated) values in layer order. -/
theorem render_by_key {ms : List Mapping} (h : ∀ m ∈ ms, RefFreeLayer m) (n : Nat) (out : Mapping)
    (hr : (mergeLayers {} ms).bind (renderParamsF n) = .ok out) :
    keys out.es = keyOrder ms ∧ out.ck = [] ∧ out.ok = [] ∧
    ∀ k, (valuesAt k ms = [] → lookup k out.es = none) ∧
      (valuesAt k ms ≠ [] →
        ∃ r, deepAll [k.display] (normL (valuesAt k ms)) = .ok r ∧ lookup k out.es = some r) := by
  have hd := render_refines_deepMerge_finished h n (by rw [hr]; simp)
  rw [hr] at hd
  have hnd := nodup_map_normLayer fun m hm => (h m hm).2.1
  obtain ⟨a, b, c, d⟩ := (deepParams_by_key hnd).1 out hd.symm
  refine ⟨by rw [a, keyOrder_norm], b, c, fun k => ?_⟩
  have := d k
  rw [valuesAt_norm] at this
  exact ⟨fun hv => this.1 (by rw [hv]; rfl), fun hv => this.2 (fun hc => hv (normL_eq_nil.1 hc))⟩

/-- **A conflict is reported iff some key's stack has one.**  Merging and rendering (finished
run) fails exactly with the conflict error of the stack of some key. -/
theorem render_error_by_key {ms : List Mapping} (h : ∀ m ∈ ms, RefFreeLayer m) (n : Nat) (e : Err)
    (hne : e ≠ .fuel) (hr : (mergeLayers {} ms).bind (renderParamsF n) = .error e) :
    ∃ k, valuesAt k ms ≠ [] ∧ deepAll [k.display] (normL (valuesAt k ms)) = .error e ∧
      ConflictBelow [k.display] e := by
  have hd := render_refines_deepMerge_finished h n (by rw [hr]; simpa using hne)
  rw [hr] at hd
  have hnd := nodup_map_normLayer fun m hm => (h m hm).2.1
  obtain ⟨k, hv, he⟩ := (deepParams_by_key hnd).2.1 e hd.symm
  rw [valuesAt_norm] at hv he
  exact ⟨k, fun hc => hv (by rw [hc]; rfl), he, deepAll_error_below _ _ he⟩

/-! ### 3. The binary reading: the table of `merge2` -/

/-- `null` over anything is `null`. -/
theorem merge2_null_over (cur : List Str) (a : Value) : merge2 cur a .null = .ok .null := by
  cases a <;> rfl

/-- Anything (plain) over `null` is that thing. -/
theorem merge2_over_null (cur : List Str) {b : Value} (h : Plain b) : merge2 cur .null b = .ok b := by
  unfold merge2
  rw [show ofValue .null = .leaf .null from rfl, deep_leaf_null, resolve_ofValue b h]

/-- Scalar over scalar: the later one wins. -/
theorem merge2_scalars (cur : List Str) {a b : Value} (ha : isScalar a = true)
    (hb : isScalar b = true) : merge2 cur a b = .ok b := by
  cases a <;> simp [isScalar] at ha <;> cases b <;> simp [isScalar] at hb <;> rfl

/-- Sequence over sequence: concatenation. -/
theorem merge2_seqs (cur : List Str) (l l' : List Value) :
    merge2 cur (.seq l) (.seq l') = .ok (.seq (l ++ l')) := rfl

/-- Mapping over mapping: member-wise (`deepEs`), then the value of the member trees. -/
theorem merge2_maps (cur : List Str) (es es' : List (Key × Value)) (ck ok ck' ok' : List Key) :
    merge2 cur (.map es ck ok) (.map es' ck' ok') =
      match resolveEs (deepEs cur (ofValueEs es) es') with
      | .error e => .error e
      | .ok r => .ok (.map r [] []) := rfl

/-- … and what that means for a member `k`: the keys are those of the left mapping followed
by the new keys of the right one; a key of both holds `merge2` (at the longer path) of the two
values, a key of one side only keeps its value. -/
theorem merge2_maps_member (cur : List Str) {es es' r : List (Key × Value)}
    {ck ok ck' ok' : List Key} (h : Plain (.map es ck ok)) (h' : Plain (.map es' ck' ok'))
    (hr : merge2 cur (.map es ck ok) (.map es' ck' ok') = .ok (.map r [] [])) :
    keys r = (keys es').foldl addKey (keys es) ∧
    ∀ k, lookup k r =
      match lookup k es, lookup k es' with
      | some a, some b => (merge2 (cur ++ [k.display]) a b).toOption
      | some a, none => some a
      | none, some b => some b
      | none, none => none := by
  rw [merge2_maps] at hr
  simp only [Plain] at h h'
  cases h1 : resolveEs (deepEs cur (ofValueEs es) es') with
  | error e => simp [h1] at hr
  | ok r' =>
    simp only [h1, Except.ok.injEq, Value.map.injEq, and_true] at hr; subst hr
    constructor
    · rw [resolveEs_keys h1, tkeys_deepEs, tkeys_ofValueEs]
    · intro k
      rw [resolveEs_lookup k h1, tlookup_deepEs cur k es' _ h'.2.1, tlookup_ofValueEs]
      cases ha : lookup k es with
      | none =>
        cases hb : lookup k es' with
        | none => simp
        | some b =>
          simp only [Option.map_none, Option.getD_none, deep_leaf_null,
            resolve_ofValue b (plainEs_lookup h'.1 hb)]
      | some a =>
        cases hb : lookup k es' with
        | none => simp [resolve_ofValue a (plainEs_lookup h.1 ha)]
        | some b =>
          simp only [Option.map_some, Option.getD_some, merge2]
          cases resolve (deep (cur ++ [k.display]) (ofValue a) b) <;> rfl

theorem deep_node_clash (cur : List Str) (ts : List (Key × Tree)) {v : Value}
    (hn : v.isNull = false) (hm : v.isMap = false) :
    deep cur (.node ts) v = .bad (conflict cur v "mapping".toList) := by
  cases v with
  | null => cases hn
  | map _ _ _ => cases hm
  | _ => rfl

theorem deep_seq_clash (cur : List Str) (l : List Value) {v : Value}
    (hn : v.isNull = false) (hs : v.isSeq = false) :
    deep cur (.leaf (.seq l)) v = .bad (conflict cur v "sequence".toList) := by
  cases v with
  | null => cases hn
  | seq _ => cases hs
  | _ => rfl

theorem deep_scalar_clash (cur : List Str) {a v : Value} (ha : isScalar a = true)
    (hv : v.isMap = true ∨ v.isSeq = true) :
    deep cur (ofValue a) v = .bad (conflict cur v a.kind) := by
  cases a with
  | bool _ | num _ | lit _ =>
    cases v with
    | map _ _ _ | seq _ => rfl
    | _ => rcases hv with h | h <;> cases h
  | _ => cases ha

/-- Mapping target, layer neither null nor a mapping: conflict at the parameter's path. -/
theorem merge2_map_conflict (cur : List Str) (es : List (Key × Value)) (ck ok : List Key)
    {b : Value} (hn : b.isNull = false) (hm : b.isMap = false) :
    merge2 cur (.map es ck ok) b = .error (conflict cur b "mapping".toList) :=
  congrArg resolve (deep_node_clash cur _ hn hm)

/-- Sequence target, layer neither null nor a sequence: conflict. -/
theorem merge2_seq_conflict (cur : List Str) (l : List Value) {b : Value}
    (hn : b.isNull = false) (hs : b.isSeq = false) :
    merge2 cur (.seq l) b = .error (conflict cur b "sequence".toList) :=
  congrArg resolve (deep_seq_clash cur l hn hs)

/-- Scalar target, layer a mapping or a sequence: conflict. -/
theorem merge2_scalar_conflict (cur : List Str) {a b : Value} (ha : isScalar a = true)
    (hb : b.isMap = true ∨ b.isSeq = true) :
    merge2 cur a b = .error (conflict cur b a.kind) :=
  congrArg resolve (deep_scalar_clash cur ha hb)

/-- As long as the layers so far merge without conflict (to `a`), one
more layer `v` gives `merge2 a v`: `deepAll` is the left fold of the binary deep merge. -/
theorem fold_reading (cur : List Str) {vs : List Value} (h : PlainL vs) {a : Value}
    (ha : deepAll cur vs = .ok a) (v : Value) :
    deepAll cur (vs ++ [v]) = merge2 cur a v :=
  deepAll_snoc cur h ha v

/-! ### 4. Consequences for stacks of layers -/

theorem deepAll_nil (cur : List Str) : deepAll cur [] = .ok .null := rfl

/-- A parameter defined once (by a plain value) is that value. -/
theorem deepAll_single (cur : List Str) {v : Value} (h : Plain v) : deepAll cur [v] = .ok v := by
  simp only [deepAll, merged, List.foldl_cons, List.foldl_nil, deep_leaf_null, resolve_ofValue v h]

/-- **Null resets.**  A `null` layer makes everything before it irrelevant — provided the
earlier layers of this very parameter did not already clash with each other. -/
theorem null_resets (cur : List Str) (pre post : List Value)
    (h : ∀ e, merged cur pre ≠ .bad e) :
    deepAll cur (pre ++ .null :: post) = deepAll cur post := by
  unfold deepAll
  rw [merged_append]
  simp only [List.foldl_cons]
  have : deep cur (merged cur pre) .null = .leaf .null := by
    cases hm : merged cur pre with
    | bad e => exact absurd hm (h e)
    | leaf a => rfl
    | node ts => rfl
  rw [this]; rfl

/-- In particular after layers that merge fine. -/
theorem null_resets_ok (cur : List Str) {pre : List Value} (post : List Value) {a : Value}
    (ha : deepAll cur pre = .ok a) : deepAll cur (pre ++ .null :: post) = deepAll cur post := by
  apply null_resets
  intro e he
  simp [deepAll, he, resolve] at ha

/-- **A scalar replaces a scalar.** -/
theorem scalar_replaces (cur : List Str) {pre : List Value} (h : PlainL pre) {a b : Value}
    (ha : deepAll cur pre = .ok a) (hsa : isScalar a = true) (hsb : isScalar b = true) :
    deepAll cur (pre ++ [b]) = .ok b := by
  rw [fold_reading cur h ha, merge2_scalars cur hsa hsb]

/-- **Lists are concatenated**, in layer order. -/
theorem lists_concatenate (cur : List Str) (a b c : List Value) :
    deepAll cur [.seq a, .seq b, .seq c] = .ok (.seq (a ++ b ++ c)) := rfl

/-- … for any number of list layers. -/
theorem lists_concatenate_all (cur : List Str) (ls : List (List Value)) (l0 : List Value) :
    deepAll cur ((l0 :: ls).map Value.seq) = .ok (.seq ((l0 :: ls).flatten)) := by
  suffices h : ∀ (ls : List (List Value)) (acc : List Value),
      (ls.map Value.seq).foldl (deep cur) (.leaf (.seq acc)) = .leaf (.seq (acc ++ ls.flatten)) by
    simp only [deepAll, merged, List.map_cons, List.foldl_cons, deep_leaf_null, ofValue, h,
      List.flatten_cons, resolve]
  intro ls
  induction ls with
  | nil => intro acc; simp
  | cons l ls ih =>
    intro acc
    simp only [List.map_cons, List.foldl_cons, List.flatten_cons]
    rw [show deep cur (.leaf (.seq acc)) (.seq l) = .leaf (.seq (acc ++ l)) from rfl, ih]
    simp

/-- **Mappings merge key by key, recursively.**  A non-empty stack of mappings (with distinct
keys each) is the mapping of the per-key stacks: keys in order of first appearance, under key
`k` the `deepAll` (at path `cur.k`) of the values the layers write to `k`; it fails iff one of
these fails. -/
theorem maps_recurse (cur : List Str) {m : Mapping} {ms : List Mapping}
    (h : ∀ m' ∈ m :: ms, (keys m'.es).Nodup) :
    deepAll cur ((m :: ms).map Mapping.toValue) =
      (match resolveEs (mergedEs cur (m :: ms)) with
       | .error e => .error e
       | .ok es => .ok (.map es [] [])) ∧
    (∀ k, tlookup k (mergedEs cur (m :: ms)) =
      if valuesAt k (m :: ms) = [] then none
      else some (merged (cur ++ [k.display]) (valuesAt k (m :: ms)))) ∧
    tkeys (mergedEs cur (m :: ms)) = keyOrder (m :: ms) := by
  refine ⟨?_, fun k => tlookup_mergedEs cur k h, tkeys_mergedEs cur _⟩
  unfold deepAll
  rw [merged_maps cur (h m (by simp))]
  rfl

/-- The member form: if the stack of mappings merges to `.map es _ _`, then `lookup k es` is
`deepAll` of the stack of `k`. -/
theorem maps_recurse_member (cur : List Str) {m : Mapping} {ms : List Mapping}
    (h : ∀ m' ∈ m :: ms, (keys m'.es).Nodup) {r : Value}
    (hr : deepAll cur ((m :: ms).map Mapping.toValue) = .ok r) :
    ∃ es, r = .map es [] [] ∧ keys es = keyOrder (m :: ms) ∧
      ∀ k, valuesAt k (m :: ms) ≠ [] →
        ∃ v, deepAll (cur ++ [k.display]) (valuesAt k (m :: ms)) = .ok v ∧ lookup k es = some v := by
  obtain ⟨h1, h2, h3⟩ := maps_recurse cur h
  rw [h1] at hr
  cases he : resolveEs (mergedEs cur (m :: ms)) with
  | error e => rw [he] at hr; cases hr
  | ok es =>
    rw [he] at hr; cases hr
    obtain ⟨hk, hv⟩ := (resolveEs_by_key (stack := fun k => valuesAt k (m :: ms))
      (tkeys_mergedEs_nodup cur _) h2).1 es he
    exact ⟨es, rfl, hk.trans h3, fun k hk => (hv k).2 hk⟩

def directClash (a v : Value) : Bool :=
  match a with
  | .null => false
  | .map .. => !v.isNull && !v.isMap
  | .seq _ => !v.isNull && !v.isSeq
  | _ => v.isMap || v.isSeq

/-- How the merge target is named in the conflict error. -/
def ontoName : Value → Str
  | .map .. => "mapping".toList
  | .seq _ => "sequence".toList
  | a => a.kind

/-- A direct clash poisons the parameter. -/
theorem clash_poisons (cur : List Str) {a v : Value} (ha : Plain a) (hc : directClash a v = true) :
    deep cur (ofValue a) v = .bad (conflict cur v (ontoName a)) := by
  cases a with
  | str _ => exact False.elim ha
  | vl _ => exact False.elim ha
  | null => cases hc
  | map es ck ok =>
    simp only [directClash, Bool.and_eq_true, Bool.not_eq_true'] at hc
    exact deep_node_clash cur _ hc.1 hc.2
  | seq l =>
    simp only [directClash, Bool.and_eq_true, Bool.not_eq_true'] at hc
    exact deep_seq_clash cur l hc.1 hc.2
  | _ => exact deep_scalar_clash cur rfl (by simpa [directClash] using hc)

/-- **A conflict among the layers of one parameter is final.**  Once the layers of a parameter
have clashed, no later layer of that parameter — not even `null` — makes the error go away. -/
theorem conflict_is_final (cur : List Str) {pre : List Value} {e : Err}
    (h : merged cur pre = .bad e) (post : List Value) :
    deepAll cur (pre ++ post) = .error e := by
  unfold deepAll
  rw [merged_append, h, foldl_deep_bad]; rfl

/-- If the layers so far merge to `a` and the next layer `v` is a non-null
value of a different kind than the container `a` (or a container over the scalar `a`), then the
parameter is an error naming its path and the two kinds — whatever layers follow. -/
theorem conflict_never_silent_stack (cur : List Str) {pre : List Value} (h : PlainL pre)
    {a v : Value} (ha : deepAll cur pre = .ok a) (hc : directClash a v = true)
    (post : List Value) :
    deepAll cur (pre ++ v :: post) = .error (conflict cur v (ontoName a)) := by
  have hpa : Plain a := deepAll_plain cur h ha
  have hm : merged cur (pre ++ [v]) = .bad (conflict cur v (ontoName a)) := by
    rw [merged_snoc, ← ofValue_resolve _ _ (merged_ptree' cur h) ha]
    exact clash_poisons cur hpa hc
  simpa using conflict_is_final cur hm post

/-- Whatever the layers, an error of `deepAll` is a merge
conflict whose path is the parameter's own path `cur` extended by the keys leading to the
conflicting member. -/
theorem errors_name_the_parameter (cur : List Str) (vs : List Value) {e : Err}
    (h : deepAll cur vs = .error e) :
    ∃ ks over onto, e = .mergeConflict (pathText (cur ++ ks)) over onto :=
  deepAll_error_below cur vs h

/-- **A conflict inside a member is deferred.**  Merging a mapping over a mapping never fails by
itself (the members' trees may be poisoned, the mapping is not), so a `null` layer afterwards
discards the members together with their conflicts. -/
theorem nested_conflict_is_deferred (cur : List Str) (pre post : List Value) (ts : List (Key × Tree))
    (h : merged cur pre = .node ts) :
    deepAll cur (pre ++ .null :: post) = deepAll cur post :=
  null_resets cur pre post (by intro e he; rw [h] at he; cases he)

/-! ### 5. Override keys (`~k`) at the top level of a layer -/

/-- Layers as stored (`OverrideLayer`: values reference-free
and flag-free, keys clean and distinct, no constant keys; `m.ok` = the keys the class file wrote
as `~k`).  Merging with `Mapping::merge` and rendering gives — for all sufficiently large fuel
— the entries of `deepParamsO`: as `deepParams`, except that an override write *replaces* the
member tree (poisoned or not) by the new value. -/
theorem override_refines {ms : List Mapping} (h : ∀ m ∈ ms, OverrideLayer m) :
    ∃ N, ∀ n, N ≤ n →
      ((mergeLayers {} ms).bind (renderParamsF n)).map Mapping.es =
        deepParamsO (ms.map normLayer) :=
  params_settleO h

/-- The same for every amount of fuel with which the run finishes. -/
theorem override_refines_finished {ms : List Mapping} (h : ∀ m ∈ ms, OverrideLayer m) (n : Nat)
    (hn : (mergeLayers {} ms).bind (renderParamsF n) ≠ .error .fuel) :
    ((mergeLayers {} ms).bind (renderParamsF n)).map Mapping.es =
      deepParamsO (ms.map normLayer) :=
  settles_finished (Except.map Mapping.es) (params_settleO h) (bind_renderParams_mono _) hn

/-- **An override restarts the stack of its key** — and thereby discards the earlier layers of
that key together with any conflict among them.  `deepParamsO` key by key: keys in order of
first appearance; under `k` the `deepAll` of `valuesAtO k ms`, the values written to `k` from
the last layer on that wrote it as `~k`; failure iff one of these stacks fails. -/
theorem override_restarts_stack {ms : List Mapping} (h : ∀ m ∈ ms, (keys m.es).Nodup) :
    (∀ es, deepParamsO ms = .ok es →
      keys es = keyOrder ms ∧
      ∀ k, (valuesAtO k ms = [] → lookup k es = none) ∧
        (valuesAtO k ms ≠ [] →
          ∃ r, deepAll [k.display] (valuesAtO k ms) = .ok r ∧ lookup k es = some r)) ∧
    (∀ e, deepParamsO ms = .error e →
      ∃ k, valuesAtO k ms ≠ [] ∧ deepAll [k.display] (valuesAtO k ms) = .error e) ∧
    ((∀ k, valuesAtO k ms ≠ [] → ∃ r, deepAll [k.display] (valuesAtO k ms) = .ok r) →
      ∃ es, deepParamsO ms = .ok es) := by
  have hn : (tkeys (mergedParamsO ms)).Nodup := by
    rw [tkeys_mergedParamsO]; exact keyOrder_nodup ms
  have := resolveEs_by_key (cur := []) (stack := fun k => valuesAtO k ms) hn
    (fun k => by simpa using tlookup_mergedParamsO k h)
  simp only [List.nil_append, tkeys_mergedParamsO] at this
  exact this

/-- What `valuesAtO` is: a layer that writes `~k` makes it the singleton of its value; a later
plain write appends. -/
theorem valuesAtO_snoc (k : Key) (ms : List Mapping) (m : Mapping) :
    valuesAtO k (ms ++ [m]) =
      match lookup k m.es with
      | none => valuesAtO k ms
      | some v => if k ∈ m.ok then [v] else valuesAtO k ms ++ [v] := by
  simp only [valuesAtO, List.foldl_append, List.foldl_cons, List.foldl_nil, stackStep]
  cases lookup k m.es <;> rfl

/-- Rendered parameters with override keys, key by key (finished, successful run). -/
theorem render_by_key_override {ms : List Mapping} (h : ∀ m ∈ ms, OverrideLayer m) (n : Nat)
    (out : Mapping) (hr : (mergeLayers {} ms).bind (renderParamsF n) = .ok out) :
    keys out.es = keyOrder ms ∧
    ∀ k, (valuesAtO k ms = [] → lookup k out.es = none) ∧
      (valuesAtO k ms ≠ [] →
        ∃ r, deepAll [k.display] (normL (valuesAtO k ms)) = .ok r ∧ lookup k out.es = some r) := by
  have hd := override_refines_finished h n (by rw [hr]; simp)
  rw [hr] at hd
  have hnd := nodup_map_normLayer fun m hm => (h m hm).2.1
  obtain ⟨a, d⟩ := (override_restarts_stack hnd).1 out.es hd.symm
  refine ⟨by rw [a, keyOrder_norm], fun k => ?_⟩
  have := d k
  rw [valuesAtO_norm] at this
  exact ⟨fun hv => this.1 (by rw [hv]; rfl), fun hv => this.2 (fun hc => hv (normL_eq_nil.1 hc))⟩

/-! ### Non-vacuity -/

def outJson (r : Except Err Value) : Option Str :=
  match r with
  | .ok v => (match jsonOf v with | .ok s => some s | .error _ => none)
  | .error _ => none

def outConflict {α : Type} (r : Except Err α) : Option (Str × Str × Str) :=
  match r with
  | .error (.mergeConflict c o t) => some (c, o, t)
  | _ => none

private def ky (x : String) : Key := .str x.toList
private def mp (es : List (Key × Value)) : Value := .map es [] []
private def one : Value := .num (.int 1)
private def two : Value := .num (.int 2)

/-- Three class layers: `p` is a mapping in all of them, `q` a scalar twice, `r` a list once. -/
private def L1 : Mapping :=
  ⟨[(ky "p", mp [(ky "a", one), (ky "b", mp [(ky "x", one)])]), (ky "q", one)], [], []⟩
private def L2 : Mapping :=
  ⟨[(ky "p", mp [(ky "b", mp [(ky "y", .seq [one])]), (ky "c", .null)]), (ky "r", .seq [])], [], []⟩
private def L3 : Mapping :=
  ⟨[(ky "p", mp [(ky "b", mp [(ky "y", .seq [two, two])])]), (ky "q", .str "z".toList)], [], []⟩
/-- a fourth layer that clashes at `p.b.y` (number over list) … -/
private def L4 : Mapping := ⟨[(ky "p", mp [(ky "b", mp [(ky "y", one)])])], [], []⟩
/-- … and a fifth that sets `p.b` to null. -/
private def L5 : Mapping := ⟨[(ky "p", mp [(ky "b", .null)])], [], []⟩

/-- The layers satisfy the hypothesis of `render_refines_deepMerge` (`L3` has an unparsed string). -/
example : ∀ m ∈ [L1, L2, L3, L4, L5], RefFreeLayer m := by
  intro m hm
  simp only [List.mem_cons, List.not_mem_nil, or_false] at hm
  rcases hm with rfl | rfl | rfl | rfl | rfl <;>
    simp [RefFreeLayer, Mapping.toValue, RefFree, RefFreeEs, RefFreeL, L1, L2, L3, L4, L5, mp, ky,
      keys, one, two, containsMarker] <;> decide

/-- What the YAML decoder produces for a marker-free class file is such a layer: strings are
unparsed `String`s, no flags. -/
example : Mapping.ofYamlEntries
      [(.str "p".toList, .map [(.str "b".toList, .map [(.str "y".toList, .seq [.num (.int 2), .num (.int 2)])])]),
       (.str "q".toList, .str "z".toList)] = .ok L3 := rfl

/-- The specification: deep merge in layer order. -/
example : outJson ((deepParams ([L1, L2, L3].map normLayer)).map Mapping.toValue) =
    some "{\"p\":{\"a\":1,\"b\":{\"x\":1,\"y\":[1,2,2]},\"c\":null},\"q\":\"z\",\"r\":[]}".toList := by
  -- `String.toList_ofList`: the kernel's own evaluation of `String.toList` is quadratic
  rw [String.toList_ofList]; decide +kernel

/-- The evaluator, on the same layers: the same. -/
example : outJson (((mergeLayers {} [L1, L2, L3]).bind (renderParamsF 100)).map Mapping.toValue) =
    some "{\"p\":{\"a\":1,\"b\":{\"x\":1,\"y\":[1,2,2]},\"c\":null},\"q\":\"z\",\"r\":[]}".toList := by
  rw [String.toList_ofList]; decide +kernel

/-- A conflict three levels down is reported with its full path, by both. -/
example : outConflict (deepParams ([L1, L2, L3, L4].map normLayer)) =
    some ("p.b.y".toList, "Value::Number".toList, "sequence".toList) := by decide +kernel

example : outConflict ((mergeLayers {} [L1, L2, L3, L4]).bind (renderParamsF 100)) =
    some ("p.b.y".toList, "Value::Number".toList, "sequence".toList) := by decide +kernel

/-- A fifth layer sets `p.b` to null: the conflict at `p.b.y`
disappears together with `p.b` — in the specification and in the evaluator alike.  No override
marker is involved. -/
example : outJson ((deepParams ([L1, L2, L3, L4, L5].map normLayer)).map Mapping.toValue) =
    some "{\"p\":{\"a\":1,\"b\":null,\"c\":null},\"q\":\"z\",\"r\":[]}".toList := by
  rw [String.toList_ofList]; decide +kernel

example : outJson (((mergeLayers {} [L1, L2, L3, L4, L5]).bind (renderParamsF 100)).map Mapping.toValue) =
    some "{\"p\":{\"a\":1,\"b\":null,\"c\":null},\"q\":\"z\",\"r\":[]}".toList := by
  rw [String.toList_ofList]; decide +kernel

/-- Whereas a conflict among the layers of the *same* parameter is final: `[1, [1], null]`. -/
example : outConflict (deepAll ["q".toList] [one, .seq [one], .null]) =
    some ("q".toList, "Value::Sequence".toList, "Value::Number".toList) := by decide +kernel

example : (match interp 50 {} (.vl [one, .seq [one], .null]) { cur := ["q".toList] } with
    | .error (.mergeConflict c o t) => some (c, o, t)
    | _ => none) = some ("q".toList, "Value::Sequence".toList, "Value::Number".toList) := by
  decide +kernel

/-- `vl_renders_deep` on a concrete stack: the evaluator's value is `deepAll`'s value. -/
example : (match interp 50 {} (.vl [mp [(ky "a", one)], mp [(ky "a", two), (ky "b", .str "s".toList)]])
      { cur := ["p".toList] } with
    | .ok (r, _) => outJson (.ok r)
    | .error _ => none) =
    outJson (deepAll ["p".toList] (normL [mp [(ky "a", one)], mp [(ky "a", two), (ky "b", .str "s".toList)]])) := by
  decide +kernel

example : outJson (deepAll ["p".toList] [mp [(ky "a", one)], mp [(ky "a", two), (ky "b", .lit "s".toList)]]) =
    some "{\"a\":2,\"b\":\"s\"}".toList := by decide +kernel

/-- The hypotheses of `conflict_never_silent_stack` are satisfiable: list, then mapping. -/
example : deepAll [] [.seq [one]] = .ok (.seq [one]) ∧ directClash (.seq [one]) (mp []) = true :=
  ⟨rfl, rfl⟩

example : outConflict (deepAll ["k".toList] ([.seq [one]] ++ mp [] :: [.null, .seq []])) =
    some ("k".toList, "Value::Mapping".toList, "sequence".toList) := by decide +kernel

example : outJson (deepAll [] [mp [(ky "a", one)], .null, .seq [one], .seq [two]]) =
    some "[1,2]".toList := by decide +kernel

example : deepAll [] [one, two, .lit "x".toList] = .ok (.lit "x".toList) := rfl

example : merge2 [] (mp [(ky "a", one)]) .null = .ok .null := rfl
example : outJson (merge2 [] (mp [(ky "a", one), (ky "b", .seq [one])]) (mp [(ky "b", .seq [two]), (ky "c", two)])) =
    some "{\"a\":1,\"b\":[1,2],\"c\":2}".toList := by rw [String.toList_ofList]; decide +kernel
example : merge2 ["x".toList] (mp []) one =
    .error (.mergeConflict "x".toList "Value::Number".toList "mapping".toList) := rfl

/-- Override keys.  The stored form of a class file `{~q: {x: 1}}`: key `q`, flagged. -/
private def L6 : Mapping := ⟨[(ky "q", mp [(ky "x", one)])], [], [ky "q"]⟩

example : Mapping.ofYamlEntries [(.str "~q".toList, .map [(.str "x".toList, .num (.int 1))])] =
    .ok ⟨[(ky "q", .map [(ky "x", one)] [] [])], [], [ky "q"]⟩ := rfl

/-- `q: 1`, then `q: [1]` (a conflict), then `~q: {x: 1}`: the override discards both earlier
layers and their conflict. -/
private def Q1 : Mapping := ⟨[(ky "q", one)], [], []⟩
private def Q2 : Mapping := ⟨[(ky "q", .seq [one])], [], []⟩
private def Q3 : Mapping := ⟨[(ky "q", mp [(ky "y", two)])], [], []⟩

example : ∀ m ∈ [Q1, Q2, L6, Q3], OverrideLayer m := by
  intro m hm
  simp only [List.mem_cons, List.not_mem_nil, or_false] at hm
  rcases hm with rfl | rfl | rfl | rfl <;>
    simp [OverrideLayer, RefFree, RefFreeEs, RefFreeL, Q1, Q2, Q3, L6, mp, ky, keys, one, two] <;>
    decide

example : outConflict ((mergeLayers {} [Q1, Q2]).bind (renderParamsF 100)) =
    some ("q".toList, "Value::Sequence".toList, "Value::Number".toList) := by decide +kernel

example : outJson (((mergeLayers {} [Q1, Q2, L6, Q3]).bind (renderParamsF 100)).map Mapping.toValue) =
    some "{\"q\":{\"x\":1,\"y\":2}}".toList := by rw [String.toList_ofList]; decide +kernel

example : outJson ((deepParamsO ([Q1, Q2, L6, Q3].map normLayer)).map (fun es => .map es [] [])) =
    some "{\"q\":{\"x\":1,\"y\":2}}".toList := by rw [String.toList_ofList]; decide +kernel

/-- The stack of `q` restarts at the override. -/
example : valuesAtO (ky "q") [Q1, Q2, L6, Q3] = [mp [(ky "x", one)], mp [(ky "y", two)]] := rfl

end C02
end Reclass
