/-
  C11 (model part) — Rendering returns a value or an error; it never panics.

  Every place where the Rust evaluator would panic is a distinct outcome `.error (.panic site)`
  of the model.  The sites that occur in the evaluator (`Model/Eval`, the 13 mutually recursive
  functions plus `flat`/`mergeV`/`rawString`/`jsonOf`) are

    * `mergeTargetStr`, `mergeTargetVl` — `Value::merge` onto an unparsed string / layer list,
    * `jsonVl`                          — `todo!()` in `From<Value> for serde_json::Value`,
    * `resolveNewvStrVl`                — `unreachable!` in `Token::resolve`,
    * `splitEmpty`                      — `refpath_iter.next().unwrap()`.

  Theorems: none of them is reachable when the parameters are well-formed (`WF`: stored keys are
  marker-free and unique) and contain no layer list directly inside a layer list (`NoNest`);
  both hold for everything decoded from a YAML document whose keys carry at most one `=`/`~`
  marker (`C07.ofYaml_wf`, `C07.ofYaml_noNest`).  The two panic sites of the *decoder*
  (`yamlTagged`, `yamlConstDup`; D5, D6) stand only in the panicking `From` impls; loading goes
  through the fallible decoder, which returns ordinary errors there (examples below).
-/
import Reclass.Lemmas.TextL
namespace Reclass
namespace C11

/-! ### `split(':')` -/

/-- `str::split(':')` yields at least one segment, so `refpath_iter.next().unwrap()` in
`Token::resolve` cannot panic (`.panic .splitEmpty` is unreachable). -/
theorem splitColon_ne_nil (s : Str) : splitColon s ≠ [] := Reclass.splitColon_ne_nil s

/-! ### `Value::merge` targets -/

/-- `Value::merge` onto a target that is neither an unparsed string nor a layer list, with an
overlay that is not an unparsed string (and whose nested layer lists hold none), does not
panic. -/
theorem merge_target_ok {self other : Value} {st : RState} {e : Err}
    (hs : (∀ s, self ≠ .str s) ∧ (∀ l, self ≠ .vl l)) (ho : LayerOK other)
    (h : mergeV self other st = .error e) : ∀ site, e ≠ .panic site :=
  mergeV_np self other st e ho ((notStrVl_iff self).2 hs) h

/-- … and its result is again a legal target. -/
theorem merge_result_target_ok {self other r : Value} {st : RState} (ho : LayerOK other)
    (h : mergeV self other st = .ok r) : (∀ s, r ≠ .str s) ∧ (∀ l, r ≠ .vl l) :=
  (notStrVl_iff r).1 (mergeV_notStrVl self other st r ho h)

/-- The accumulator of the layer loop stays a legal merge target: if it starts as one (e.g.
`Null`) the loop's result is neither `String` nor `ValueList`. -/
theorem interpVl_acc_target_ok : ∀ (n : Nat) (root : Mapping) (vs : List Value) (r0 r : Value)
    (st : RState), NotStrVl r0 → interpVl n root vs r0 st = .ok r →
    (∀ s, r ≠ .str s) ∧ (∀ l, r ≠ .vl l) := by
  intro n
  induction n with
  | zero => intro _ _ _ _ _ _ h; cases h
  | succ n ih =>
    intro root vs r0 r st h0 h
    cases vs with
    | nil => cases h; exact (notStrVl_iff r0).1 h0
    | cons v vs =>
      rw [interpVl_consB] at h
      obtain ⟨x, st1, h1, h⟩ := bind2_ok.1 h
      obtain ⟨r1, h2, h⟩ := bind1_ok.1 h
      have hx : LayerOK x := layerOK_of_notStrVl ((interp_tokRender_notStrVl n).1 _ _ _ _ _ h1)
      exact ih _ _ _ _ _ (mergeV_notStrVl r0 x st1 r1 hx h2) h

/-- The `unreachable!`s of `Value::merge` are real for other targets. -/
example : mergeV (.str "a".toList) (.bool true) {} = .error (.panic .mergeTargetStr) := by rfl
example : mergeV (.vl []) (.bool true) {} = .error (.panic .mergeTargetVl) := by rfl

/-- **The layer loop never merges onto a `String`/`ValueList`.** Starting from `Null` (as
`Value::interpolate` does), folding the interpolated layers of a well-formed layer list never
fails with a panic: every accumulator is `Null`, a value returned by `interpolate` or the
result of a merge. -/
theorem interpVl_no_merge_panic {n : Nat} {root : Mapping} {vs : List Value} {st : RState}
    (hr : WF root.toValue) (hn : NoNest root.toValue) (hv : WFL vs) (hvn : NoNestL vs) :
    interpVl n root vs .null st ≠ .error (.panic .mergeTargetStr) ∧
    interpVl n root vs .null st ≠ .error (.panic .mergeTargetVl) ∧
    ∀ site, interpVl n root vs .null st ≠ .error (.panic site) := by
  have : ∀ site, interpVl n root vs .null st ≠ .error (.panic site) :=
    fun site h => (noPanicInv n).interpVl _ _ _ _ _ ⟨hr, hn⟩ hv hvn notStrVl_null h site rfl
  exact ⟨this _, this _, this⟩

/-! ### The evaluator -/

/-- **`Value::interpolate` never panics** on well-formed input without nested layer lists. -/
theorem interp_no_panic {n : Nat} {root : Mapping} {v : Value} {st : RState}
    (hr : WF root.toValue) (hn : NoNest root.toValue) (hv : WF v) (hvn : NoNest v) (site : PanicSite) :
    interp n root v st ≠ .error (.panic site) :=
  fun h => (noPanicInv n).interp _ _ _ _ ⟨hr, hn⟩ ⟨hv, hvn⟩ h site rfl

/-- `Token::render` never panics (any token). -/
theorem tokRender_no_panic {n : Nat} {root : Mapping} {t : Token} {st : RState}
    (hr : WF root.toValue) (hn : NoNest root.toValue) (site : PanicSite) :
    tokRender n root t st ≠ .error (.panic site) :=
  fun h => (noPanicInv n).tokRender _ _ _ _ ⟨hr, hn⟩ h site rfl

/-- `Token::resolve` never panics (any token). -/
theorem tokResolve_no_panic {n : Nat} {root : Mapping} {t : Token} {st : RState}
    (hr : WF root.toValue) (hn : NoNest root.toValue) (site : PanicSite) :
    tokResolve n root t st ≠ .error (.panic site) :=
  fun h => (noPanicInv n).tokResolve _ _ _ _ ⟨hr, hn⟩ h site rfl

/-- `interpolate_token_slice` never panics. -/
theorem slice_no_panic {n : Nat} {root : Mapping} {ts : List Token} {st : RState}
    (hr : WF root.toValue) (hn : NoNest root.toValue) (site : PanicSite) :
    slice n root ts st ≠ .error (.panic site) :=
  fun h => (noPanicInv n).slice _ _ _ _ ⟨hr, hn⟩ h site rfl

/-- `Value::rendered` (interpolate, then flatten) never panics. -/
theorem rendered_no_panic {n : Nat} {root : Mapping} {v : Value}
    (hr : WF root.toValue) (hn : NoNest root.toValue) (hv : WF v) (hvn : NoNest v) (site : PanicSite) :
    renderedF n v root ≠ .error (.panic site) := by
  intro h
  rw [renderedF_eqB] at h
  rcases bind2_err.1 h with h1 | ⟨v1, st1, h1, h⟩
  · exact (noPanicInv n).interp _ _ _ _ ⟨hr, hn⟩ ⟨hv, hvn⟩ h1 site rfl
  · obtain ⟨v2, h2, -⟩ := flat_after_interp_ok (st2 := st1) hr hv h1
    cases h2.symm.trans h

/-- **Model totality.** Rendering well-formed parameters without nested layer lists returns
parameters or an error that is not a panic — for every panic site and every amount of fuel. -/
theorem model_total {n : Nat} {m : Mapping} (hm : WF m.toValue) (hn : NoNest m.toValue)
    (site : PanicSite) : renderParamsF n m ≠ .error (.panic site) := by
  intro h
  rcases renderParamsF_error h with h | ⟨k, hk⟩
  · exact rendered_no_panic hm hn hm hn site h
  · cases hk

/-- The outcome of rendering is a value or a non-panic error. -/
theorem model_total' {n : Nat} {m : Mapping} (hm : WF m.toValue) (hn : NoNest m.toValue) :
    (∃ out, renderParamsF n m = .ok out) ∨ (∃ e, renderParamsF n m = .error e ∧ ∀ s, e ≠ .panic s) := by
  cases h : renderParamsF n m with
  | ok out => exact Or.inl ⟨out, rfl⟩
  | error e =>
    refine Or.inr ⟨e, rfl, ?_⟩
    intro s hs
    subst hs
    exact model_total hm hn s h

/-- **From YAML.** Parameters decoded from a YAML mapping whose string keys carry at most one
leading `=`/`~` marker render without any evaluator panic. -/
theorem yaml_render_total {n : Nat} {es : List (Yaml × Yaml)} {es' : List (Key × Value)}
    {ck ok : List Key} (hy : SingleMarker (.map es))
    (hd : Value.ofYaml (.map es) = .ok (.map es' ck ok)) (site : PanicSite) :
    renderParamsF n ⟨es', ck, ok⟩ ≠ .error (.panic site) :=
  model_total (m := ⟨es', ck, ok⟩) (Reclass.ofYaml_wf _ _ hy hd) (Reclass.ofYaml_noNest _ _ hd) site

/-- The same for any decoded value rendered against decoded parameters. -/
theorem yaml_rendered_total {n : Nat} {yr yv : Yaml} {root : Mapping} {v : Value}
    (hyr : SingleMarker yr) (hyv : SingleMarker yv)
    (hdr : Value.ofYaml yr = .ok root.toValue) (hdv : Value.ofYaml yv = .ok v) (site : PanicSite) :
    renderedF n v root ≠ .error (.panic site) :=
  rendered_no_panic (Reclass.ofYaml_wf _ _ hyr hdr) (Reclass.ofYaml_noNest _ _ hdr)
    (Reclass.ofYaml_wf _ _ hyv hdv) (Reclass.ofYaml_noNest _ _ hdv) site

/-! ### `NoNest` is needed; the decoder returns ordinary errors -/

/-- Without `NoNest` the evaluator can panic: a hand-built layer list nested directly in a layer
list reaches the `unreachable!` of `Token::resolve` (not constructible from YAML). -/
example : TextL.errOf (renderParamsF 30
    ⟨[(.str "a".toList, .vl [.vl [.str "x".toList]]), (.str "b".toList, .str "${a:k}".toList)], [], []⟩) =
    some (.panic .resolveNewvStrVl) := by decide +kernel

/-- D5: a tagged YAML value is an ordinary error of the fallible decoder (the `todo!()` stands only
in the panicking `From` impl). -/
example : Value.ofYaml (.tagged "!x".toList (.str "v".toList)) = .error .yamlTaggedValue := by rfl

example : Value.ofYaml (.map [(.str "k".toList, .tagged "!x".toList .null)]) =
    .error .yamlTaggedValue := by rfl

/-- D6: `{=k: 1, k: 2}` in one mapping is an ordinary constant-key error of the fallible decoder (the
`unwrap()` stands only in the panicking `From` impl). -/
example : Value.ofYaml (.map [(.str "=k".toList, .num (.int 1)), (.str "k".toList, .num (.int 2))]) =
    .error (.constKey (.str "k".toList)) := by rfl

/-! ### Non-vacuity -/

/-- A well-formed, nesting-free mapping with layers and references: renders to an error that is
not a panic (missing key) … -/
example : TextL.errOf (renderParamsF 40
    ⟨[(.str "a".toList, .vl [.num (.int 1), .str "${nope}".toList])], [], []⟩) =
    some (.missingKey "nope".toList "nope".toList "a".toList) := by decide +kernel

/-- … and one that renders to a value. -/
example : (match renderParamsF 40
    ⟨[(.str "a".toList, .vl [.num (.int 1), .str "${b}".toList]), (.str "b".toList, .num (.int 2))], [], []⟩ with
    | .ok out => (match jsonOf out.toValue with | .ok s => some s | .error _ => none)
    | .error _ => none) = some "{\"a\":2,\"b\":2}".toList := by decide +kernel

example : WF (Mapping.toValue ⟨[(.str "a".toList, .vl [.num (.int 1), .str "${b}".toList]),
    (.str "b".toList, .num (.int 2))], [], []⟩) ∧
    NoNest (Mapping.toValue ⟨[(.str "a".toList, .vl [.num (.int 1), .str "${b}".toList]),
    (.str "b".toList, .num (.int 2))], [], []⟩) := by
  decide +kernel

/-- A loop is an error, not a panic or divergence. -/
example : TextL.errOf (renderParamsF 60
    ⟨[(.str "a".toList, .str "${b}".toList), (.str "b".toList, .str "${a}".toList)], [], []⟩) =
    some .loop := by decide +kernel

end C11
end Reclass
