/-
  C16 — Missing classes (`Node::read_class`, `Config::is_class_ignored`, the `continue` /
  `return Err` arms of `Node::render_impl`; model: `readClass`, `NodeCfg.isClassIgnored`,
  `walkClasses`, `renderImpl`, `renderNodeSrc` in `Model/Node`).

  "Including a class that does not exist fails the node with an error naming the class,
  unless ignoring missing classes is enabled and one of the configured patterns matches the
  class name; in that case the node renders exactly as if that include were absent, except
  that the name still appears in its class list.  Existing classes are never skipped by
  these settings."
-/
import Reclass.Lemmas.WalkL
namespace Reclass
namespace C16

/-! ### 1. When a class name is ignored -/

/-- A class name is ignored iff ignoring is switched on **and** one of the compiled patterns
matches it. -/
theorem ignored_iff (r : Inv) (c : Str) :
    r.cfg.isClassIgnored c = true ↔
      r.cfg.ignoreClassNotfound = true ∧ ∃ p ∈ r.cfg.compiled, p.matches c = true := by
  simp [NodeCfg.isClassIgnored, List.any_eq_true]

/-- With ignoring switched off nothing is ignored, whatever the patterns. -/
theorem not_ignored_of_off (r : Inv) (c : Str) (h : r.cfg.ignoreClassNotfound = false) :
    r.cfg.isClassIgnored c = false := by
  simp [NodeCfg.isClassIgnored, h]

/-! ### 2. Existing classes are never skipped -/

/-- If the class exists, `readClass` does not look at the configuration at all: any other
configuration gives the same result — and that result is never "skip". -/
theorem existing_never_skipped {r : Inv} {loc : Option (List Str)} {cls : Str} {e : EntityInfo × FileRes}
    (h : findEntity (absClassName loc cls) r.classes = some e) :
    (∀ cfg', readClass { r with cfg := cfg' } loc cls = readClass r loc cls) ∧
    readClass r loc cls ≠ .ok none := by
  obtain ⟨info, fr⟩ := e
  refine ⟨?_, ?_⟩
  · intro cfg'
    unfold readClass
    simp only [h]
    cases fr <;> rfl
  · unfold readClass
    simp only [h]
    cases fr with
    | bad w => simp
    | ok src =>
      simp only []
      cases NodeM.ofSrc (some info.loc) src with
      | error e => simp
      | ok n => simp

/-- Consequently an existing, readable class is always walked (unless already seen): the
step of the loop for an entry resolving to it descends into it, under every configuration. -/
theorem existing_is_loaded {r : Inv} {loc : Option (List Str)} {c : Str} {info : EntityInfo} {src : ClassSrc}
    {cn : NodeM} (h : findEntity (absClassName loc c) r.classes = some (info, .ok src))
    (ho : NodeM.ofSrc (some info.loc) src = .ok cn) :
    readClass r loc c = .ok (some cn) := by
  unfold readClass
  simp only [h, ho]

/-! ### 3. A missing class that is not ignored fails the node, naming the class -/

/-- `readClass` on a missing, not ignored class: the error names the (absolute) class. -/
theorem missing_fails {r : Inv} {loc : Option (List Str)} {cls : Str}
    (hf : findEntity (absClassName loc cls) r.classes = none)
    (hi : r.cfg.isClassIgnored (absClassName loc cls) = false) :
    readClass r loc cls = .error (.classNotFound (absClassName loc cls)) := by
  rw [readClass_missing hf]; simp [hi]

/-- The loop step for an entry that resolves to a new, missing, not ignored class fails with
that error (whatever follows in the list). -/
theorem missing_fails_step {n : Nat} {r : Inv} {loc : Option (List Str)} {cls c : Str} {rest seen : List Str}
    {root : NodeM} (h1 : resolveClassName defaultFuel root.params cls = .ok c) (hs : c ∉ seen)
    (hf : findEntity (absClassName loc c) r.classes = none)
    (hi : r.cfg.isClassIgnored (absClassName loc c) = false) :
    walkClasses (n+1) r loc (cls :: rest) seen root = .error (.classNotFound (absClassName loc c)) :=
  walkClasses_error_of_read h1 hs (missing_fails hf hi)

/-- The same after any successfully walked prefix of the include list: with enough fuel the
walk of `pre ++ cls :: rest` fails with the error naming the class. -/
theorem missing_fails_after_prefix {r : Inv} {loc : Option (List Str)} {pre seen : List Str} {root : NodeM}
    {seen1 : List Str} {root1 : NodeM} {tr : List TraceEntry}
    (hw : Walk r loc pre seen root seen1 root1 tr) {cls c : Str} (rest : List Str)
    (h1 : resolveClassName defaultFuel root1.params cls = .ok c) (hs : c ∉ seen1)
    (hf : findEntity (absClassName loc c) r.classes = none)
    (hi : r.cfg.isClassIgnored (absClassName loc c) = false) :
    ∃ n, ∀ m, n ≤ m →
      walkClasses m r loc (pre ++ cls :: rest) seen root = .error (.classNotFound (absClassName loc c)) :=
  hw.prefix_error (n := 1) (missing_fails_step h1 hs hf hi) (by simp)

/-- An error of a class's include walk is the error of the class (`renderImpl`), and an error
of an included class is the error of the including walk: errors travel up unchanged through
every level of nesting. -/
theorem error_propagates {n : Nat} {r : Inv} {e : Err} :
    (∀ {self seen root}, walkClasses n r self.loc self.classes.items seen root = .error e →
      renderImpl (n+1) r self seen root = .error e) ∧
    (∀ {loc cls c rest seen root cn}, resolveClassName defaultFuel root.params cls = .ok c → c ∉ seen →
      readClass r loc c = .ok (some cn) → renderImpl n r cn (seen ++ [c]) root = .error e →
      walkClasses (n+1) r loc (cls :: rest) seen root = .error e) :=
  ⟨fun h => renderImpl_error_of_walk h, fun h1 hs h2 h3 => walkClasses_error_of_render h1 hs h2 h3⟩

/-- An error of the walk of the node's includes is the error of rendering the node. -/
theorem node_fails {fuel : Nat} {r : Inv} {nmeta : MetaM} {src : ClassSrc}
    {self : NodeM} {rc bp : Mapping} {e : Err}
    (h1 : NodeM.ofSrc none src = .ok self) (h2 : nmeta.asReclass r.cfg = .ok rc)
    (h3 : ({} : Mapping).insert (.str Extracted.reclassKey.toList) rc.toValue = .ok bp)
    (h4 : renderImpl fuel r { classes := self.classes, params := bp } [] {} = .error e) :
    renderNodeSrc fuel r nmeta src = .error e :=
  renderNodeSrc_error_of_walk h1 h2 h3 h4

/-- **End to end, for an include of the node itself.**  If the node's include list is
`pre ++ cls :: rest`, the entries `pre` are walked successfully, and `cls` then resolves to a
new class that is missing and not ignored, rendering the node fails — for every sufficiently
large amount of fuel — with the error naming that class. -/
theorem node_missing_include_fails {r : Inv} {nmeta : MetaM} {src : ClassSrc} {self : NodeM} {rc bp : Mapping}
    (e1 : NodeM.ofSrc none src = .ok self) (e2 : nmeta.asReclass r.cfg = .ok rc)
    (e3 : ({} : Mapping).insert (.str Extracted.reclassKey.toList) rc.toValue = .ok bp)
    {pre rest : List Str} {cls c : Str} (hc : self.classes.items = pre ++ cls :: rest)
    {seen1 : List Str} {root1 : NodeM} {tr : List TraceEntry}
    (hw : Walk r none pre [] {} seen1 root1 tr)
    (h1 : resolveClassName defaultFuel root1.params cls = .ok c) (hs : c ∉ seen1)
    (hf : findEntity (absClassName none c) r.classes = none)
    (hi : r.cfg.isClassIgnored (absClassName none c) = false) :
    ∃ n, ∀ fuel, n ≤ fuel →
      renderNodeSrc fuel r nmeta src = .error (.classNotFound (absClassName none c)) := by
  obtain ⟨n, hn⟩ := missing_fails_after_prefix hw rest h1 hs hf hi
  refine ⟨n+1, fun fuel hf' => ?_⟩
  obtain ⟨k, rfl⟩ : ∃ k, fuel = k + 1 := ⟨fuel - 1, by omega⟩
  apply node_fails e1 e2 e3
  apply renderImpl_error_of_walk
  simp only [hc]
  exact hn k (by omega)

/-! ### 4. A missing class that is ignored: as if the include were absent -/

/-- `readClass` on a missing, ignored class: "skip". -/
theorem ignored_read {r : Inv} {loc : Option (List Str)} {cls : Str}
    (hf : findEntity (absClassName loc cls) r.classes = none)
    (hi : r.cfg.isClassIgnored (absClassName loc cls) = true) :
    readClass r loc cls = .ok none := by
  rw [readClass_missing hf]; simp [hi]

/-- The loop step for an entry resolving to a missing, ignored class leaves `seen` and the
accumulator untouched and continues with the rest: the walk of `cls :: rest` *is* the walk of
`rest` (one unit of fuel is spent on the entry). -/
theorem ignored_as_absent {n : Nat} {r : Inv} {loc : Option (List Str)} {cls c : Str} {rest seen : List Str}
    {root : NodeM} (h1 : resolveClassName defaultFuel root.params cls = .ok c)
    (hf : findEntity (absClassName loc c) r.classes = none)
    (hi : r.cfg.isClassIgnored (absClassName loc c) = true) :
    walkClasses (n+1) r loc (cls :: rest) seen root = walkClasses n r loc rest seen root ∧
    walkClassesT (n+1) r loc (cls :: rest) seen root = walkClassesT n r loc rest seen root :=
  ⟨walkClasses_skip h1 (Or.inr (ignored_read hf hi)), walkClassesT_skip h1 (Or.inr (ignored_read hf hi))⟩

/-- With equal fuel on both sides: if the walk of `rest` has an answer, the walk of
`cls :: rest` has the same answer. -/
theorem ignored_as_absent_same_fuel {n : Nat} {r : Inv} {loc : Option (List Str)} {cls c : Str}
    {rest seen : List Str} {root : NodeM} (h1 : resolveClassName defaultFuel root.params cls = .ok c)
    (hf : findEntity (absClassName loc c) r.classes = none)
    (hi : r.cfg.isClassIgnored (absClassName loc c) = true)
    (hne : walkClasses n r loc rest seen root ≠ .error .fuel) :
    walkClasses (n+1) r loc (cls :: rest) seen root = walkClasses (n+1) r loc rest seen root := by
  rw [(ignored_as_absent h1 hf hi).1]
  exact (walkClasses_mono_le (Nat.le_succ n) rfl hne).symm

/-- Anywhere in the list: a reference-free entry naming a missing, ignored class can be
removed from (inserted into) an include list at any position without changing the result of
the walk — same `seen`, same accumulator, same trace, same error.  `res` names the outcome of the
walk without the entry: unless it is `Err.fuel`, the walk with the entry and one more unit of fuel
has the same outcome. -/
theorem ignored_as_absent_anywhere {r : Inv} {loc : Option (List Str)} {cls : Str}
    (hm : strContains cls Extracted.classRefMarker.toList = false)
    (hf : findEntity (absClassName loc cls) r.classes = none)
    (hi : r.cfg.isClassIgnored (absClassName loc cls) = true)
    (pre rest : List Str) {n : Nat} {seen : List Str} {root : NodeM} :
    (∀ {res}, walkClasses n r loc (pre ++ rest) seen root = res → res ≠ .error .fuel →
      walkClasses (n+1) r loc (pre ++ cls :: rest) seen root = res) ∧
    (∀ {res}, walkClassesT n r loc (pre ++ rest) seen root = res → res ≠ .error .fuel →
      walkClassesT (n+1) r loc (pre ++ cls :: rest) seen root = res) := by
  have h1 : ∀ params, resolveClassName defaultFuel params cls = .ok cls :=
    fun params => resolveClassName_of_no_marker _ params hm
  have h2 := ignored_read hf hi
  exact ⟨fun h hne => h ▸ walkClasses_insert_skipped h1 h2 pre rest (h ▸ hne),
         fun h hne => h ▸ walkClassesT_insert_skipped h1 h2 pre rest n seen root (h ▸ hne)⟩

/-- Merging a class into the accumulator merges its whole include list into the class list —
ignored entries included. -/
theorem mergeInto_classes {self root root' : NodeM} (h : mergeInto self root = .ok root') :
    root'.classes = root.classes.merge self.classes :=
  (mergeInto_ok h).2.2.1

/-- Every entry of the merged class's include list is in the class list afterwards. -/
theorem mergeInto_classes_mem {self root root' : NodeM} (h : mergeInto self root = .ok root')
    {cls : Str} (hc : cls ∈ self.classes.items) : cls ∈ root'.classes.items := by
  rw [mergeInto_classes h]; exact UList.mem_merge.2 (Or.inr hc)

/-- **A class with an ignored include.**  Let `self` and `self'` be the same class except that
`self` has the additional include entry `cls` (reference-free, missing, ignored) somewhere in
its list.  Then walking `self` gives the same error, or the same `seen` and an accumulator
with the same parameters and applications, whose class list contains exactly one more name
at most: `cls`. -/
theorem ignored_as_absent_class {r : Inv} {self self' : NodeM} {cls : Str} {pre rest : List Str}
    (hloc : self.loc = self'.loc) (hp : self.params = self'.params) (ha : self.apps = self'.apps)
    (hc : self.classes.items = pre ++ cls :: rest) (hc' : self'.classes.items = pre ++ rest)
    (hm : strContains cls Extracted.classRefMarker.toList = false)
    (hf : findEntity (absClassName self.loc cls) r.classes = none)
    (hi : r.cfg.isClassIgnored (absClassName self.loc cls) = true)
    {n : Nat} {seen : List Str} {root : NodeM} :
    (∀ e, renderImpl n r self' seen root = .error e → e ≠ .fuel →
       renderImpl (n+1) r self seen root = .error e) ∧
    (∀ seen' root', renderImpl n r self' seen root = .ok (seen', root') →
       ∃ root'', renderImpl (n+1) r self seen root = .ok (seen', root'') ∧
         root''.params = root'.params ∧ root''.apps = root'.apps ∧ root''.loc = root'.loc ∧
         ∀ x, x ∈ root''.classes.items ↔ x = cls ∨ x ∈ root'.classes.items) :=
  renderImpl_insert_skipped hloc hp ha hc hc'
    (fun params => resolveClassName_of_no_marker _ params hm) (ignored_read hf hi)

/-- **End to end, for an include of the node itself.**  Let two node files parse to the same
node except that the first has the additional include entry `cls` (reference-free, missing,
ignored).  If the second renders, so does the first, with the same parameters, the same
applications and the same metadata; its class list is that of the second plus the name `cls`. -/
theorem ignored_as_absent_node {r : Inv} {nmeta : MetaM} {src src' : ClassSrc} {self self' : NodeM}
    {cls : Str} {pre rest : List Str}
    (hs : NodeM.ofSrc none src = .ok self) (hs' : NodeM.ofSrc none src' = .ok self')
    (hp : self.params = self'.params) (ha : self.apps = self'.apps)
    (hc : self.classes.items = pre ++ cls :: rest) (hc' : self'.classes.items = pre ++ rest)
    (hm : strContains cls Extracted.classRefMarker.toList = false)
    (hf : findEntity (absClassName none cls) r.classes = none)
    (hi : r.cfg.isClassIgnored (absClassName none cls) = true)
    {fuel : Nat} {info' : NodeInfoM} (h : renderNodeSrc fuel r nmeta src' = .ok info') :
    ∃ info, renderNodeSrc (fuel+1) r nmeta src = .ok info ∧ info.params = info'.params ∧
      info.apps = info'.apps ∧ info.nmeta = info'.nmeta ∧
      ∀ x, x ∈ info.classes ↔ x = cls ∨ x ∈ info'.classes :=
  renderNodeSrc_insert_skipped hs hs' hp ha hc hc'
    (fun params => resolveClassName_of_no_marker _ params hm) (ignored_read hf hi) h

/-! ### Non-vacuity -/

def exInfo (p : String) : EntityInfo := { path := [p.toList], loc := [] }
def exClass (incs : List String) (k v : String) : FileRes :=
  .ok { classes := incs.map String.toList, params := [(.str k.toList, .str v.toList)] }

/-- Two classes; missing classes are ignored if their name starts with `opt.`. -/
def exInv : Inv :=
  { classes :=
      [ ("a".toList, exInfo "a.yml", exClass ["opt.gone", "b"] "ka" "a"),
        ("b".toList, exInfo "b.yml", exClass [] "kb" "b") ],
    cfg := { ignoreClassNotfound := true, compiled := [.pfx "opt.".toList] } }

/-- (final `seen`, class list, parameter keys) on success; the missing class on a
class-not-found error. -/
def summary (x : R (List Str × NodeM)) : Option (List Str × List Str × List Key) ⊕ Option Str :=
  match x with
  | .ok (s, root) => .inl (some (s, root.classes.items, root.params.es.map Prod.fst))
  | .error (.classNotFound c) => .inr (some c)
  | .error _ => .inr none

example : exInv.cfg.isClassIgnored "opt.gone".toList = true := by decide +kernel
example : exInv.cfg.isClassIgnored "other.gone".toList = false := by decide +kernel

/-- `a` includes the ignored `opt.gone`: `a` and `b` are loaded, `opt.gone` is neither seen
nor merged, but it is in the class list. -/
example : summary (renderImpl 20 exInv { classes := ⟨["a".toList]⟩ } [] {}) =
    .inl (some (["a", "b"].map String.toList, ["opt.gone", "b", "a"].map String.toList,
      ["kb", "ka"].map (fun s => Key.str s.toList))) := by decide +kernel

/-- A missing class that no pattern matches fails the walk, naming the class … -/
example : summary (walkClasses 20 exInv none ["a".toList, "other.gone".toList, "b".toList] [] {}) =
    .inr (some "other.gone".toList) := by decide +kernel

/-- … and so does `opt.gone` once ignoring is switched off. -/
example : summary (walkClasses 20 { exInv with cfg := { ignoreClassNotfound := false, compiled := [.pfx "opt.".toList] } }
    none ["a".toList] [] {}) = .inr (some "opt.gone".toList) := by decide +kernel

/-- The catch-all pattern does not make an existing class disappear. -/
example : summary (walkClasses 20 { exInv with cfg := { ignoreClassNotfound := true, compiled := [.any] } }
    none ["b".toList] [] {}) =
    .inl (some (["b"].map String.toList, [], [Key.str "kb".toList])) := by decide +kernel

end C16
end Reclass
