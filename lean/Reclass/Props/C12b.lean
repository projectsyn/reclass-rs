/-
  C12b — C12 end to end, the per-node part: "rendering one node never influences another;
  rendering a node is a function of the files it reads".

  `Props/C12` is about the aggregation of the per-node results; this file is about the results
  themselves, i.e. `renderNode` (`Reclass::render_node`), for every fuel and every inventory.
  The class files a rendering reads are made explicit as `classLookups`, read off the
  instrumented walk `E2E2.renderImplQ`.
-/
import Reclass.Lemmas.E2E2L
import Reclass.Props.C12
namespace Reclass
namespace C12
open E2E2

/-! ### Other nodes are irrelevant -/

/-- **Rendering one node never reads another node's file.**  If two inventories have the same
config and the same class map, and the lookup of `name` in their node maps gives the same entry
(same `EntityInfo`, same file contents or the same read failure — or is absent in both), then
`renderNode` gives the same result for `name` in both, whatever the other nodes are. -/
theorem renderNode_indep_other_nodes {r r' : Inv} (hc : r.cfg = r'.cfg) (hcl : r.classes = r'.classes)
    {name : Str} (hn : findEntity name r.nodes = findEntity name r'.nodes) (fuel : Nat) :
    renderNode fuel r name = renderNode fuel r' name := by
  rw [renderNode_eq, renderNode_eq, ← hn, ← hc]
  rcases findEntity name r.nodes with _ | ⟨info, (src | w)⟩
  · rfl
  · exact renderNodeSrc_congr hc (fun loc c => readClass_congr hc (by rw [hcl])) ..
  · rfl

/-- The same with the node maps given explicitly: replacing the whole node map by any other one
that has the same entry for `name`. -/
theorem renderNode_indep_other_nodes' (r : Inv) (nodes' : List (Str × EntityInfo × FileRes))
    {name : Str} (hn : findEntity name r.nodes = findEntity name nodes') (fuel : Nat) :
    renderNode fuel r name = renderNode fuel { r with nodes := nodes' } name :=
  renderNode_indep_other_nodes (r := r) (r' := { r with nodes := nodes' }) rfl rfl hn fuel

/-- In particular a node renders in the full inventory exactly as in the inventory whose node map
contains that node alone. -/
theorem renderNode_alone (r : Inv) (name : Str) (fuel : Nat) :
    renderNode fuel r name =
      renderNode fuel { r with nodes := r.nodes.filter fun x => decide (x.1 = name) } name :=
  renderNode_indep_other_nodes' r _ (findEntity_filter_self name r.nodes).symm fuel

/-! ### Class files that are never looked up are irrelevant -/

/-- The absolute class names that rendering node `name` looks up in `r.classes`, in lookup order
(found or not; up to and including the failing lookup when rendering fails).  Empty when the
node is unknown, unreadable, or fails before the walk starts. -/
def classLookups (fuel : Nat) (r : Inv) (name : Str) : List Str :=
  match findEntity name r.nodes with
  | some (info, .ok src) =>
    match nodePrefix r (nodeMeta r.cfg name info) src with
    | .ok (self, bp) => (renderImplQ fuel r { classes := self.classes, params := bp } [] {}).1
    | .error _ => []
  | _ => []

/-- `classLookups` is the first component of a run whose second component is `renderNode`: the
instrumented walk `renderImplQ` computes the model's walk (`E2E2.renderImplQ_snd`), and the only
place where the walk consults `r.classes` — the call `readClass r loc c`, which looks up exactly
`absClassName loc c` (`E2E2.readClass_congr`) — is where a name is recorded. -/
theorem renderNode_eq_instrumented (fuel : Nat) (r : Inv) (name : Str) :
    renderNode fuel r name =
      match findEntity name r.nodes with
      | none => .error (.unknownNode name)
      | some (_, .bad w) => .error (.io w)
      | some (info, .ok src) =>
        match nodePrefix r (nodeMeta r.cfg name info) src with
        | .error e => .error e
        | .ok (self, bp) =>
          finishNode (nodeMeta r.cfg name info) self
            (renderImplQ fuel r { classes := self.classes, params := bp } [] {}).2 := by
  rw [renderNode_eq]
  rcases findEntity name r.nodes with _ | ⟨info, (src | w)⟩
  · rfl
  · simp only [renderNodeSrc_eq, renderImplQ_snd]
    rcases nodePrefix r (nodeMeta r.cfg name info) src with _ | ⟨_, _⟩ <;> rfl
  · rfl

/-- **Rendering is a function of the files it reads.**  Let `r` and `r'` have the same config and
the same entry for node `name`, and let their class maps agree on every class name that rendering
`name` in `r` looks up.  Then rendering `name` gives the same result in both (value or error), and
looks up the same names.  Nothing is assumed about classes that are not looked up: they may be
added, removed, changed or unreadable. -/
theorem renderNode_indep_unreached_classes {r r' : Inv} (hc : r.cfg = r'.cfg) {name : Str}
    (hn : findEntity name r.nodes = findEntity name r'.nodes) {fuel : Nat}
    (hq : ∀ a ∈ classLookups fuel r name, findEntity a r.classes = findEntity a r'.classes) :
    renderNode fuel r name = renderNode fuel r' name ∧
    classLookups fuel r' name = classLookups fuel r name := by
  rw [renderNode_eq_instrumented, renderNode_eq_instrumented]
  unfold classLookups at hq ⊢
  rw [← hn, ← hc]
  revert hq
  rcases findEntity name r.nodes with _ | ⟨info, src | w⟩
  · exact fun _ => ⟨rfl, rfl⟩
  · dsimp only
    rw [← nodePrefix_congr hc]
    rcases nodePrefix r (nodeMeta r.cfg name info) src with _ | ⟨self, bp⟩
    · exact fun _ => ⟨rfl, rfl⟩
    · intro hq
      dsimp only at hq ⊢
      rw [renderImplQ_congr hc hq]
      exact ⟨rfl, rfl⟩
  · exact fun _ => ⟨rfl, rfl⟩

/-- Special case: **adding class files** to an inventory changes nothing for a node all of whose
lookups found a file (new entries are appended, so existing names keep their files). -/
theorem renderNode_indep_added_classes (r : Inv) (extra : List (Str × EntityInfo × FileRes))
    {name : Str} {fuel : Nat}
    (hfound : ∀ a ∈ classLookups fuel r name, findEntity a r.classes ≠ none) :
    renderNode fuel r name = renderNode fuel { r with classes := r.classes ++ extra } name := by
  refine (renderNode_indep_unreached_classes (r := r) (r' := { r with classes := r.classes ++ extra })
    rfl rfl ?_).1
  intro a ha
  simp only [findEntity_append]
  cases h : findEntity a r.classes with
  | none => exact absurd h (hfound a ha)
  | some e => rfl

/-- Special case: **removing, changing or adding** any class files whose names are not looked up. -/
theorem renderNode_indep_classes_outside {r r' : Inv} (hc : r.cfg = r'.cfg) {name : Str}
    (hn : findEntity name r.nodes = findEntity name r'.nodes) {fuel : Nat}
    (changed : List Str) (hch : ∀ a, a ∉ changed → findEntity a r.classes = findEntity a r'.classes)
    (hdisj : ∀ a ∈ classLookups fuel r name, a ∉ changed) :
    renderNode fuel r name = renderNode fuel r' name :=
  (renderNode_indep_unreached_classes hc hn fun a ha => hch a (hdisj a ha)).1

/-! ### Determinism and the inventory entry -/

/-- `renderNode` is a function of its arguments: rendering the same node of the same inventory
again gives the same result (the model has no hidden state, caches or thread identity). -/
theorem render_repeat (fuel : Nat) (r : Inv) (name : Str) {x y : R NodeInfoM}
    (hx : renderNode fuel r name = x) (hy : renderNode fuel r name = y) : x = y :=
  hx.symm.trans hy

/-- **The entry of a node in the rendered inventory is its own rendering, in any inventory that
differs only in other nodes' files.**  `names` are the discovered node names; the inventory is
assembled from `renderNode fuel r n` for each of them (`Inventory::render`). -/
theorem inventory_entry_indep {fuel : Nat} {r r' : Inv} {names : List Str} {inv : InventoryM}
    (h : Inventory.render (names.map fun n => (n, renderNode fuel r n)) = .ok inv)
    (hc : r.cfg = r'.cfg) (hcl : r.classes = r'.classes) {name : Str} {info : NodeInfoM}
    (hn : findEntity name r.nodes = findEntity name r'.nodes)
    (hm : (name, info) ∈ inv.nodes) : renderNode fuel r' name = .ok info := by
  rw [← renderNode_indep_other_nodes hc hcl hn fuel]
  exact mem_map_graph ((inventory_entry_eq_single h name info).1 hm)

/-- The same, when in addition class files that rendering `name` never looks up differ. -/
theorem inventory_entry_indep_unreached {fuel : Nat} {r r' : Inv} {names : List Str} {inv : InventoryM}
    (h : Inventory.render (names.map fun n => (n, renderNode fuel r n)) = .ok inv)
    (hc : r.cfg = r'.cfg) {name : Str} {info : NodeInfoM}
    (hn : findEntity name r.nodes = findEntity name r'.nodes)
    (hq : ∀ a ∈ classLookups fuel r name, findEntity a r.classes = findEntity a r'.classes)
    (hm : (name, info) ∈ inv.nodes) : renderNode fuel r' name = .ok info := by
  rw [← (renderNode_indep_unreached_classes hc hn hq).1]
  exact mem_map_graph ((inventory_entry_eq_single h name info).1 hm)

/-- Conversely every rendered node is stored: what `renderNode` returns for a discovered node in
`r'` (differing from `r` only in other nodes' files) is an entry of the inventory rendered from `r`. -/
theorem inventory_entry_indep_conv {fuel : Nat} {r r' : Inv} {names : List Str} {inv : InventoryM}
    (h : Inventory.render (names.map fun n => (n, renderNode fuel r n)) = .ok inv)
    (hc : r.cfg = r'.cfg) (hcl : r.classes = r'.classes) {name : Str} {info : NodeInfoM}
    (hn : findEntity name r.nodes = findEntity name r'.nodes) (hmem : name ∈ names)
    (hr : renderNode fuel r' name = .ok info) : (name, info) ∈ inv.nodes := by
  refine (inventory_entry_eq_single h name info).2 (List.mem_map.2 ⟨name, hmem, ?_⟩)
  rw [renderNode_indep_other_nodes hc hcl hn fuel, hr]

/-! ### Non-vacuity -/

section Examples

/-- `exInvE2E` with all nodes but `n1` replaced: a different node `zz` (which does not even
render) in front, the others gone. -/
private def exInvOther : Inv :=
  { exInvE2E with
    nodes := ("zz".toList, { path := ["zz.yml".toList], loc := [] }, .ok { classes := ["nowhere".toList] })
      :: exInvE2E.nodes.filter fun x => decide (x.1 = "n1".toList) }

private theorem exInvOther_n1 :
    findEntity "n1".toList exInvE2E.nodes = findEntity "n1".toList exInvOther.nodes :=
  ((findEntity_cons_ne (by decide +kernel) _).trans (findEntity_filter_self _ _)).symm

/-- `exInvE2E` with an unrelated, unreadable class file added and a new class `extra`. -/
private def exInvMore : Inv :=
  { exInvE2E with
    classes := exInvE2E.classes ++
      [("extra".toList, { path := ["extra.yml".toList], loc := [] }, .ok { apps := ["x".toList] }),
       ("broken".toList, { path := ["broken.yml".toList], loc := [] }, .bad "EIO".toList)] }

/-- The two inventories differ in the other nodes … -/
example : exInvOther.nodes.map Prod.fst = ["zz".toList, "n1".toList] ∧
    exInvE2E.nodes.map Prod.fst = ["n1".toList, "bad".toList, "gone".toList, "unreadable".toList] := by
  decide +kernel

/-- … and node `n1` renders identically in both (the hypotheses of the theorem hold by
evaluation), … -/
example : renderNode 30 exInvE2E "n1".toList = renderNode 30 exInvOther "n1".toList :=
  renderNode_indep_other_nodes (r := exInvE2E) (r' := exInvOther) rfl rfl exInvOther_n1 30

/-- … to a value, not an error (checked independently for both inventories). -/
example : nodeJson (renderNode 30 exInvE2E "n1".toList) = nodeJson (renderNode 30 exInvOther "n1".toList) ∧
    (nodeJson (renderNode 30 exInvOther "n1".toList)).isSome = true := by decide +kernel

/-- Rendering `n1` looks up `app`, then `base`; rendering `gone` looks up `missing` (not found). -/
example : classLookups 30 exInvE2E "n1".toList = ["app".toList, "base".toList] ∧
    classLookups 30 exInvE2E "gone".toList = ["missing".toList] := by decide +kernel

/-- Adding classes that are not looked up does not change `n1` … -/
example : renderNode 30 exInvE2E "n1".toList = renderNode 30 exInvMore "n1".toList :=
  renderNode_indep_added_classes exInvE2E _ (name := "n1".toList) (fuel := 30) (by decide +kernel)

/-- … but the hypothesis of `renderNode_indep_added_classes` matters: `gone` looks up `missing`,
which is not found, and adding a class of that name changes the outcome. -/
example : TextL.errOf (renderNode 30 exInvE2E "gone".toList) = some (.classNotFound "missing".toList) ∧
    TextL.errOf (renderNode 30
      { exInvE2E with classes := exInvE2E.classes ++
          [("missing".toList, { path := ["missing.yml".toList], loc := [] }, .ok {})] }
      "gone".toList) = none := by decide +kernel

end Examples

end C12
end Reclass
