/-
  C03 — Whole-value references: a parameter whose whole value is `${a:b:c}` renders to the final
  value found at that path, kind preserved, also when the path is assembled from nested
  references; independently of the order of the parameters; a missing path is an error naming
  the reference and the key.  The "reference = target" statements here are for a path that walks
  through raw mappings (the value at its *end* may be anything); a path through a layer list or
  an unparsed string is `Props/C03b`.
  `order_independence` is FALSE at the *same* fuel: `Mapping::interpolate` in the model hands each
  later entry one unit of fuel less, so an expensive entry moved to the end can run out
  (`order_same_fuel_counterexample`).  Fuel is a device of the model, not of the Rust code; it
  is proved with `root.es.length + 1` more fuel.
-/
import Reclass.Lemmas.RefsL
import Reclass.Lemmas.DecEq
namespace Reclass
namespace C03

open Refs

/-! ### 1. The resolve state never influences a value -/

/-- **State independence**, all 13 evaluator functions at once (same fuel): if a function
succeeds from two resolve states — with the same root and arguments — the *values* it returns
coincide (first components for the seven functions that also return a state).  The seen-set,
the depth counter and the current-key path therefore only decide whether an error (loop, depth
limit, …) is raised and what it says.  See `Refs.StIndep` for the 13 clauses. -/
theorem state_independence : ∀ n, StIndep n := stIndep

/-- `Value::flattened` uses the state only inside error values: a success carries over
verbatim to any other state.  (Likewise `flatVl_ok_state`, `Refs.flatL_st`, `Refs.flatEs_st`.) -/
theorem flat_state_irrelevant {v r : Value} {st : RState} (st' : RState)
    (h : flat v st = .ok r) : flat v st' = .ok r := flat_st v st st' r h

/-- `Value::merge` uses the state only inside error values. -/
theorem mergeV_state_irrelevant {a b r : Value} {st : RState} (st' : RState)
    (h : mergeV a b st = .ok r) : mergeV a b st' = .ok r := mergeV_ok_state a b st st' r h

/-- Two successful merges of the same operands agree, whatever the states. -/
theorem mergeV_state_independent {a b r r' : Value} {st st' : RState}
    (h : mergeV a b st = .ok r) (h' : mergeV a b st' = .ok r') : r = r' := mergeV_indep h h'

/-- `Value::interpolate`: any two successful runs — any states, any amounts of fuel — return the
same value. -/
theorem state_independence_interp {n m : Nat} {root : Mapping} {v : Value} {st st' : RState}
    {x x' : Value × RState} (h : interp n root v st = .ok x) (h' : interp m root v st' = .ok x') :
    x.1 = x'.1 :=
  interp_indep (x := x.1) (s := x.2) (x' := x'.1) (s' := x'.2) h h'

/-- `Token::render`: the rendered value does not depend on state or fuel. -/
theorem state_independence_tokRender {n m : Nat} {root : Mapping} {t : Token} {st st' : RState}
    {x x' : Value × RState} (h : tokRender n root t st = .ok x)
    (h' : tokRender m root t st' = .ok x') : x.1 = x'.1 :=
  indep_of_mono (fun hle => tokRender_fuel_mono_le hle root t st)
    (fun hle => tokRender_fuel_mono_le hle root t st')
    (fun k a a' => (stIndep k).tokRender root t st st' a.1 a'.1 a.2 a'.2) h h'

/-- `Token::resolve`: the resolved value does not depend on state or fuel. -/
theorem state_independence_tokResolve {n m : Nat} {root : Mapping} {t : Token} {st st' : RState}
    {x x' : Value × RState} (h : tokResolve n root t st = .ok x)
    (h' : tokResolve m root t st' = .ok x') : x.1 = x'.1 :=
  indep_of_mono (fun hle => tokResolve_fuel_mono_le hle root t st)
    (fun hle => tokResolve_fuel_mono_le hle root t st')
    (fun k a a' => (stIndep k).tokResolve root t st st' a.1 a'.1 a.2 a'.2) h h'

/-- The lookup loop of `Token::resolve`: neither the state nor the reference text (used only in
error messages) nor the fuel influence the value found. -/
theorem state_independence_descend {n m : Nat} {root : Mapping} {v : Value} {ks : List Str}
    {st st' : RState} {p p' : Str} {x x' : Value × RState}
    (h : descend n root v ks st p = .ok x) (h' : descend m root v ks st' p' = .ok x') :
    x.1 = x'.1 :=
  indep_of_mono (fun hle => descend_fuel_mono_le hle root v ks st p)
    (fun hle => descend_fuel_mono_le hle root v ks st' p')
    (fun k a a' => (stIndep k).descend root v ks st st' p p' a.1 a'.1 a.2 a'.2) h h'

/-- The trailing `while` loop of `Token::resolve`. -/
theorem state_independence_finalLoop {n m : Nat} {root : Mapping} {v : Value} {st st' : RState}
    {x x' : Value × RState} (h : finalLoop n root v st = .ok x)
    (h' : finalLoop m root v st' = .ok x') : x.1 = x'.1 :=
  indep_of_mono (fun hle => finalLoop_fuel_mono_le hle root v st)
    (fun hle => finalLoop_fuel_mono_le hle root v st')
    (fun k a a' => (stIndep k).finalLoop root v st st' a.1 a'.1 a.2 a'.2) h h'

/-- `interpolate_string_or_valuelist`. -/
theorem state_independence_interpStrOrVl {n m : Nat} {root : Mapping} {v : Value}
    {st st' : RState} {x x' : Value × RState} (h : interpStrOrVl n root v st = .ok x)
    (h' : interpStrOrVl m root v st' = .ok x') : x.1 = x'.1 :=
  indep_of_mono (fun hle => interpStrOrVl_fuel_mono_le hle root v st)
    (fun hle => interpStrOrVl_fuel_mono_le hle root v st')
    (fun k a a' => (stIndep k).interpStrOrVl root v st st' a.1 a'.1 a.2 a'.2) h h'

/-- The `while v.is_string()` loop of `interpolate_token_slice`. -/
theorem state_independence_strLoop {n m : Nat} {root : Mapping} {v : Value} {st st' : RState}
    {x x' : Value × RState} (h : strLoop n root v st = .ok x)
    (h' : strLoop m root v st' = .ok x') : x.1 = x'.1 :=
  indep_of_mono (fun hle => strLoop_fuel_mono_le hle root v st)
    (fun hle => strLoop_fuel_mono_le hle root v st')
    (fun k a a' => (stIndep k).strLoop root v st st' a.1 a'.1 a.2 a'.2) h h'

/-- The `Sequence` arm of `interpolate` (the start index only feeds the current-key path). -/
theorem state_independence_interpL {n m : Nat} {root : Mapping} {l : List Value} {idx idx' : Nat}
    {st st' : RState} {r r' : List Value} (h : interpL n root l idx st = .ok r)
    (h' : interpL m root l idx' st' = .ok r') : r = r' :=
  indep_of_mono (val := id) (fun hle => interpL_fuel_mono_le hle root l idx st)
    (fun hle => interpL_fuel_mono_le hle root l idx' st')
    (fun k => (stIndep k).interpL root l idx idx' st st') h h'

/-- The layer loop of `interpolate_string_or_valuelist`. -/
theorem state_independence_layersStr {n m : Nat} {root : Mapping} {l : List Value}
    {st st' : RState} {r r' : List Value} (h : layersStr n root l st = .ok r)
    (h' : layersStr m root l st' = .ok r') : r = r' :=
  layersStr_indep h h'

/-- `Mapping::interpolate` (same accumulator). -/
theorem state_independence_interpEs {n m : Nat} {root : Mapping} {es : List (Key × Value)}
    {ck ok : List Key} {st st' : RState} {acc r r' : Mapping}
    (h : interpEs n root es ck ok st acc = .ok r) (h' : interpEs m root es ck ok st' acc = .ok r') :
    r = r' :=
  indep_of_mono (val := id) (fun hle => interpEs_fuel_mono_le hle root es ck ok st acc)
    (fun hle => interpEs_fuel_mono_le hle root es ck ok st' acc)
    (fun k => (stIndep k).interpEs root es ck ok st st' acc) h h'

/-- The merge loop of the `ValueList` arm of `interpolate`. -/
theorem state_independence_interpVl {n m : Nat} {root : Mapping} {l : List Value} {r0 : Value}
    {st st' : RState} {r r' : Value} (h : interpVl n root l r0 st = .ok r)
    (h' : interpVl m root l r0 st' = .ok r') : r = r' :=
  indep_of_mono (val := id) (fun hle => interpVl_fuel_mono_le hle root l r0 st)
    (fun hle => interpVl_fuel_mono_le hle root l r0 st')
    (fun k => (stIndep k).interpVl root l r0 st st') h h'

/-- `interpolate_token_slice`: the text a token sequence (e.g. the path of a reference) renders
to does not depend on state or fuel. -/
theorem state_independence_slice {n m : Nat} {root : Mapping} {ts : List Token} {st st' : RState}
    {r r' : Str} (h : slice n root ts st = .ok r) (h' : slice m root ts st' = .ok r') : r = r' :=
  slice_indep h h'

/-- The end of one iteration of `interpolate_token_slice`. -/
theorem state_independence_sliceFinish {n m : Nat} {root : Mapping} {v : Value}
    {st st' : RState} {r r' : Str} (h : sliceFinish n root v st = .ok r)
    (h' : sliceFinish m root v st' = .ok r') : r = r' :=
  indep_of_mono (val := id) (fun hle => sliceFinish_fuel_mono_le hle root v st)
    (fun hle => sliceFinish_fuel_mono_le hle root v st')
    (fun k => (stIndep k).sliceFinish root v st st') h h'

/-! ### 2. The parameters are read only through `get` -/

/-- **The root is only looked up.**  Two root mappings with the same `get` function — whatever
their entry order, flag sets, or duplicates shadowed by earlier entries — are indistinguishable
for all 13 evaluator functions: same values, same states, same errors, at every fuel.  (Only
`Token::resolve` reads the root, via `root.get (.str k0)`.)  See `Refs.RootEq` for the clauses. -/
theorem root_lookup_only {root root' : Mapping} (hget : ∀ k, root.get k = root'.get k) :
    ∀ n, RootEq root root' n := rootEq hget

/-- In particular `Value::rendered` of any value. -/
theorem root_lookup_only_rendered {root root' : Mapping} (hget : ∀ k, root.get k = root'.get k)
    (n : Nat) (v : Value) : renderedF n v root = renderedF n v root' := by
  unfold renderedF; rw [(rootEq hget n).interp]

/-! ### 3. A path that does not exist is an error naming the reference and the missing key -/

/-- Resolving `${…}` whose path text renders to `path = k0:…` when the
parameters have no key `k0` fails with the lookup error that carries the reference text `path`,
the missing key `k0` and the parameter being rendered. -/
theorem missing_top_key {n : Nat} {root : Mapping} {parts : List Token} {st : RState}
    {path k0 : Str} {segs : List Str} (hd : st.depth + 1 ≤ maxDepth)
    (hs : slice n root parts { st with depth := st.depth + 1 } = .ok path)
    (hseen : path ∉ st.seen) (hsplit : splitColon path = k0 :: segs)
    (hget : root.get (.str k0) = none) :
    tokResolve (n+1) root (.ref parts) st = .error (.missingKey path k0 st.curKey) := by
  rw [tokResolve_ref]
  have hd' : ¬ (st.depth + 1 > maxDepth) := by omega
  simp only [hd', if_false, hs, hseen, hsplit, hget]
  rfl

/-- The same seen from `Value::interpolate` of the string holding the reference. -/
theorem missing_top_key_interp {n : Nat} {root : Mapping} {s : Str} {parts : List Token}
    {st : RState} {path k0 : Str} {segs : List Str}
    (hparse : Token.parse s = .ok (some (.ref parts))) (hd : st.depth + 1 ≤ maxDepth)
    (hs : slice n root parts { st with depth := st.depth + 1 } = .ok path)
    (hseen : path ∉ st.seen) (hsplit : splitColon path = k0 :: segs)
    (hget : root.get (.str k0) = none) :
    interp (n+3) root (.str s) st = .error (.missingKey path k0 st.curKey) := by
  -- `n+3`: `interp`, `tokRender` and `tokResolve` each take one unit before `slice` runs at `n`
  rw [interp_str, hparse]
  simp only
  rw [tokRender_succ, missing_top_key hd hs hseen hsplit hget]

/-- In the lookup loop, if the current value (after
`interpolate_string_or_valuelist`) is a mapping without the next path segment `key`, the result
is the lookup error naming the whole reference text `path` and `key`. -/
theorem missing_nested_key {n : Nat} {root : Mapping} {v : Value} {key : Str} {rest : List Str}
    {st st' : RState} {path : Str} {es : List (Key × Value)} {ck ok : List Key}
    (h : interpStrOrVl n root v st = .ok (.map es ck ok, st'))
    (hl : lookup (.str key) es = none) :
    descend (n+1) root v (key :: rest) st path = .error (.missingKey path key st.curKey) := by
  rw [descend_cons, h]
  simp only [hl]
  have : st'.cur = st.cur := (interpStrOrVl_depth_mono h).2.2
  simp only [RState.curKey, this]

/-- If the current value is a scalar or a sequence the result is
the "looking up key in reference" error, again naming `path` and `key`.  (That the value is
never an unparsed string or a layer list at this point is `C07.descend_no_panic`.) -/
theorem lookup_into_scalar {n : Nat} {root : Mapping} {v nv : Value} {key : Str}
    {rest : List Str} {st st' : RState} {path : Str}
    (h : interpStrOrVl n root v st = .ok (nv, st'))
    (hm : nv.isMap = false) (hs : nv.isStr = false) (hv : nv.isVl = false) :
    descend (n+1) root v (key :: rest) st path = .error (.lookupInto path key st.curKey) := by
  rw [descend_consB, h]
  have : st'.cur = st.cur := (interpStrOrVl_depth_mono h).2.2
  cases nv with
  | map => cases hm
  | str => cases hs
  | vl => cases hv
  | _ => simp only [bind2, RState.curKey, this]

/-! ### 4. A whole-value reference renders to what its target renders to -/

/-- Let the path pieces `parts` of a reference render
(from some state, with some fuel — the pieces may themselves be references) to the text
`path = k0:s1:…:sm`, let the parameters hold `v0` under `k0`, and let the walk `s1 … sm` through
raw (unmerged) mappings starting at `v0` end at `vt` (`Refs.rawPath`).  Then whatever
`Token::render` returns for the reference is, up to flag sets (`erase` empties them), exactly
what `Value::interpolate` returns for `vt` itself — from any other state, with any other fuel.
Same kind, same data: a mapping stays a mapping, a number a number. -/
theorem whole_ref_path {n m j : Nat} {root : Mapping} {parts : List Token} {path k0 : Str}
    {segs : List Str} {v0 vt r r0 : Value} {st st' sp st0 st0' : RState}
    (hw : WF root.toValue) (hpath : slice j root parts sp = .ok path)
    (hsplit : splitColon path = k0 :: segs) (hget : root.get (.str k0) = some v0)
    (hraw : rawPath v0 segs = some vt)
    (h : tokRender n root (.ref parts) st = .ok (r, st'))
    (h0 : interp m root vt st0 = .ok (r0, st0')) : erase r = erase r0 := by
  have hv0 : WF v0 := by
    simp only [Mapping.toValue, WF] at hw
    exact lookup_some_wf hw.1 hget
  obtain ⟨k, sd, vd, s3, v, s1, h3, h1, h⟩ := tokRender_ref_path hpath hsplit hget h
  obtain ⟨rfl, _⟩ := descend_raw segs k v0 vt sd vd s3 hraw h3
  exact congrArg erase (finalLoop_then_interp hw (rawPath_wf segs v0 vd hv0 hraw) h1 h h0)

/-- With well-formed parameters holding `v0`
under `k0` (no `:` in `k0`), whatever `${k0}` renders to equals, up to flag sets,
what `v0` itself interpolates to — from any state, with any fuel. -/
theorem whole_ref_top {n m : Nat} {root : Mapping} {k0 : Str} {v0 r r0 : Value}
    {st st' st0 st0' : RState} (hw : WF root.toValue) (hcolon : ':' ∉ k0)
    (hget : root.get (.str k0) = some v0)
    (h : tokRender n root (.ref [.lit k0]) st = .ok (r, st'))
    (h0 : interp m root v0 st0 = .ok (r0, st0')) : erase r = erase r0 :=
  whole_ref_path (sp := {}) hw (slice_single_lit 0 root k0 {}) (splitColon_of_not_mem hcolon) hget
    (by simp [rawPath]) h h0

/-- `whole_ref_path` seen from `Value::interpolate` of the string that holds the reference. -/
theorem whole_ref_interp {n m j : Nat} {root : Mapping} {s : Str} {parts : List Token}
    {path k0 : Str} {segs : List Str} {v0 vt r r0 : Value} {st st' sp st0 st0' : RState}
    (hw : WF root.toValue) (hparse : Token.parse s = .ok (some (.ref parts)))
    (hpath : slice j root parts sp = .ok path)
    (hsplit : splitColon path = k0 :: segs) (hget : root.get (.str k0) = some v0)
    (hraw : rawPath v0 segs = some vt)
    (h : interp n root (.str s) st = .ok (r, st'))
    (h0 : interp m root vt st0 = .ok (r0, st0')) : erase r = erase r0 := by
  cases n with
  | zero => simp [interp] at h
  | succ n =>
    rw [interp_str, hparse] at h
    exact whole_ref_path hw hpath hsplit hget hraw h h0

/-- **A rendered parameter is the interpolation of the raw parameter.**  If rendering
well-formed parameters succeeds, every top-level entry `(k, v)` is present in the output and
holds — up to flag sets — what `Value::interpolate` returns for `v`
(started from the empty state with `k` pushed; by `state_independence_interp` from any state). -/
theorem render_entry {n : Nat} {root out : Mapping} {k : Key} {v : Value}
    (hw : WF root.toValue) (h : renderParamsF n root = .ok out) (hk : (k, v) ∈ root.es) :
    ∃ x s z, interp n root v (({} : RState).pushMappingKey k) = .ok (x, s) ∧
      lookup k out.es = some z ∧ erase z = erase x := by
  obtain ⟨x, s, hx, hl⟩ := renderParamsF_entry hw h hk
  exact ⟨x, s, x, hx, hl, rfl⟩

/-- **In the rendered parameters, `k: ${a:b:c}` equals what is found at `a:b:c`.**  If rendering
well-formed parameters succeeds, `k` holds a string that parses to a whole-value reference whose
path pieces render to `path = k0:s1:…:sm`, and the walk from the raw entry `k0` along `s1…sm`
goes through raw mappings (`Refs.rawPath`), then in the *output* the entry `k` and the value
found by walking `k0:s1:…:sm` are the same — same kind, same data at every depth (`erase`
forgets only flag sets). -/
theorem whole_ref_final_path {n j : Nat} {root out : Mapping} {k : Key} {s : Str}
    {parts : List Token} {path k0 : Str} {segs : List Str} {v0 vt : Value} {sp : RState}
    (hw : WF root.toValue) (h : renderParamsF n root = .ok out)
    (hk : (k, .str s) ∈ root.es) (hparse : Token.parse s = .ok (some (.ref parts)))
    (hpath : slice j root parts sp = .ok path) (hsplit : splitColon path = k0 :: segs)
    (hget : root.get (.str k0) = some v0) (hraw : rawPath v0 segs = some vt) :
    ∃ a b, lookup k out.es = some a ∧ rawPath out.toValue (k0 :: segs) = some b ∧
      erase a = erase b := by
  have hm := hw
  simp only [Mapping.toValue, WF] at hm
  have hv0w : WF v0 := lookup_some_wf hm.1 hget
  obtain ⟨xk, sk, hxk, hlk⟩ := renderParamsF_entry hw h hk
  obtain ⟨x0, s0, hx0, hl0⟩ := renderParamsF_entry hw h (lookup_mem_entry hget)
  obtain ⟨xt, jt, st1, s1, hp, hi⟩ := interp_rawPath hw segs n v0 vt x0 _ s0 hv0w hraw hx0
  refine ⟨xk, xt, hlk, ?_, whole_ref_interp hw hparse hpath hsplit hget hraw hxk hi⟩
  simp only [Mapping.toValue, rawPath, hl0]
  exact hp

/-- **In the rendered parameters, `k: ${k0}` equals the entry `k0`.**  If rendering well-formed
parameters succeeds, `k` holds a string that parses to the whole-value reference `${k0}` (no
`:` in `k0`) and `k0` is a top-level key, then both keys are present in the output and carry the
same value — same kind, same data at every depth (`erase` forgets only flag sets).  (The parse
hypothesis is what `C06.bare_ref_accepted` proves for `s = "${" ++ k0 ++ "}"` with `k0`
non-empty and free of `$`, `\`, `}`.) -/
theorem whole_ref_final_top {n : Nat} {root out : Mapping} {k : Key} {s k0 : Str}
    (hw : WF root.toValue) (h : renderParamsF n root = .ok out)
    (hk : (k, .str s) ∈ root.es) (hparse : Token.parse s = .ok (some (.ref [.lit k0])))
    (hcolon : ':' ∉ k0) (hk0 : Key.str k0 ∈ keys root.es) :
    ∃ a b, lookup k out.es = some a ∧ lookup (.str k0) out.es = some b ∧ erase a = erase b := by
  obtain ⟨v0, hv0⟩ : ∃ v0, lookup (.str k0) root.es = some v0 := by
    cases hl : lookup (.str k0) root.es with
    | none => exact absurd hk0 (lookup_none_iff.1 hl)
    | some v0 => exact ⟨v0, rfl⟩
  obtain ⟨a, b, ha, hb, hab⟩ := whole_ref_final_path (sp := {}) hw h hk hparse
    (slice_single_lit 0 root k0 {}) (splitColon_of_not_mem hcolon) hv0 (vt := v0) rfl
  refine ⟨a, b, ha, ?_, hab⟩
  simp only [Mapping.toValue, rawPath] at hb
  cases hl : lookup (.str k0) out.es with
  | none => simp [hl] at hb
  | some v' => simpa [hl, rawPath] using hb

/-! ### 5. The order of the parameters does not matter -/

/-- With distinct keys, `get` does not see the order of the entries. -/
theorem perm_same_lookup {root root' : Mapping} (hp : root'.es.Perm root.es)
    (hn : (keys root.es).Nodup) (k : Key) : root.get k = root'.get k :=
  lookup_perm hp.symm hn k

/-- If the entries of `root'` are a permutation
of those of `root` (distinct keys; flag sets arbitrary), every value interpolates to the same
result — value, state or error — against either root; likewise for the other 12 evaluator
functions (`root_lookup_only`). -/
theorem order_independence_interp {root root' : Mapping} (hp : root'.es.Perm root.es)
    (hn : (keys root.es).Nodup) (n : Nat) (v : Value) (st : RState) :
    interp n root v st = interp n root' v st :=
  (rootEq (perm_same_lookup hp hn) n).interp v st

/-- … and for `Value::rendered`. -/
theorem order_independence_rendered {root root' : Mapping} (hp : root'.es.Perm root.es)
    (hn : (keys root.es).Nodup) (n : Nat) (v : Value) :
    renderedF n v root = renderedF n v root' :=
  root_lookup_only_rendered (perm_same_lookup hp hn) n v

/-- If well-formed parameters render
successfully and `root'` has the same entries in another order (same flag sets), then `root'`
renders successfully too (given `root.es.length + 1` more units of fuel, see the header) and the
output is the same up to that reordering: it is a permutation of the original output, every key
maps to exactly the same rendered value, the keys come in the order of `root'`, and the flag
sets have the same members. -/
theorem order_independence {n : Nat} {root root' out : Mapping} (hw : WF root.toValue)
    (hp : root'.es.Perm root.es) (hck : root'.ck = root.ck) (hok : root'.ok = root.ok)
    (h : renderParamsF n root = .ok out) :
    ∃ out', renderParamsF (n + root.es.length + 1) root' = .ok out' ∧
      out'.es.Perm out.es ∧ (∀ k, lookup k out'.es = lookup k out.es) ∧
      keys out'.es = keys root'.es ∧
      (∀ x, x ∈ out'.ck ↔ x ∈ out.ck) ∧ (∀ x, x ∈ out'.ok ↔ x ∈ out.ok) := by
  have hw' : WF root'.toValue := wf_map_perm hp.symm hw
  have hshape := renderParamsF_shape hw h
  have hget := perm_same_lookup hp (by simpa [Mapping.toValue, WF] using hw.2)
  have hm := hw
  have hm' := hw'
  simp only [Mapping.toValue, WF] at hm hm'
  obtain ⟨n, rfl, h1⟩ := (renderParamsF_ok_iff_interpEs hw).1 h
  obtain ⟨_, E1⟩ := interpEs_entries hw root.es n {} out hm.1 (by simpa using hm.2) h1
  -- every entry of `root'` is an entry of `root`, and interpolates against `root'` as against `root`
  obtain ⟨out', hout', _, B1⟩ := interpEs_build (ck := root'.ck) (ok := root'.ok) (st := {})
    (tgt := out.es) hw' n root'.es {} hm'.1 (by simpa using hm'.2) (fun k v hkv => by
      obtain ⟨x, s, hx, hl⟩ := E1 k v (hp.mem_iff.1 hkv)
      exact ⟨x, s, by rw [← (rootEq hget n).interp]; exact hx, hl⟩)
  have hrender : renderParamsF (n + 1 + root.es.length + 1) root' = .ok out' :=
    (renderParamsF_ok_iff_interpEs hw').2 ⟨n + root'.es.length + 1, by rw [hp.length_eq]; omega, hout'⟩
  have hshape' := renderParamsF_shape hw' hrender
  have hkperm : (keys out'.es).Perm (keys out.es) := by
    rw [hshape'.1, hshape.1]; exact List.Perm.map Prod.fst hp
  have hlook : ∀ k, lookup k out'.es = lookup k out.es := by
    intro k
    by_cases hk : k ∈ keys root'.es
    · exact B1 k hk
    · have hk' : k ∉ keys out'.es := by rw [hshape'.1]; exact hk
      rw [lookup_none_iff.2 hk', lookup_none_iff.2 fun hmem => hk' (hkperm.mem_iff.2 hmem)]
  refine ⟨out', hrender, perm_of_lookup_eq hkperm (by rw [hshape'.1]; exact hm'.2) hlook, hlook,
    hshape'.1, fun x => ?_, fun x => ?_⟩
  · rw [hshape'.2.1 x, hshape.2.1 x, hck]
    exact and_congr_right fun _ => (List.Perm.map Prod.fst hp).mem_iff
  · rw [hshape'.2.2 x, hshape.2.2 x, hok]
    exact and_congr_right fun _ => (List.Perm.map Prod.fst hp).mem_iff

/-- `order_independence` for any sufficiently large amount of fuel. -/
theorem order_independence_fuel {n n' : Nat} {root root' out : Mapping} (hw : WF root.toValue)
    (hp : root'.es.Perm root.es) (hck : root'.ck = root.ck) (hok : root'.ok = root.ok)
    (h : renderParamsF n root = .ok out) (hn' : n + root.es.length + 1 ≤ n') :
    ∃ out', renderParamsF n' root' = .ok out' ∧
      out'.es.Perm out.es ∧ (∀ k, lookup k out'.es = lookup k out.es) ∧
      keys out'.es = keys root'.es ∧
      (∀ x, x ∈ out'.ck ↔ x ∈ out.ck) ∧ (∀ x, x ∈ out'.ok ↔ x ∈ out.ok) := by
  obtain ⟨out', h1, rest⟩ := order_independence hw hp hck hok h
  exact ⟨out', renderParamsF_fuel_mono_le hn' _ h1 (by simp), rest⟩

/-! ### Non-vacuity -/

/-- `a` is a whole-value reference to the mapping `b`. -/
def demo : Mapping :=
  ⟨[(.str "a".toList, .str "${b}".toList),
    (.str "b".toList, .map [(.str "x".toList, .num (.int 1))] [] [])], [], []⟩

/-- The same parameters written in the other order. -/
def demoSwapped : Mapping :=
  ⟨[(.str "b".toList, .map [(.str "x".toList, .num (.int 1))] [] []),
    (.str "a".toList, .str "${b}".toList)], [], []⟩

/-- A path assembled from a nested reference: `${${c}:x}` with `c: b`. -/
def demoNested : Mapping :=
  ⟨[(.str "a".toList, .str "${${c}:x}".toList),
    (.str "b".toList, .map [(.str "x".toList, .num (.int 1))] [] []),
    (.str "c".toList, .str "b".toList)], [], []⟩

theorem demo_wf : WF demo.toValue := by decide +kernel

theorem demoNested_wf : WF demoNested.toValue := by decide +kernel

/-! Observers that pick out of a result what an example speaks of (the fields of an error, a parse
as text), so that it can be checked by kernel evaluation. -/

def missingKeyOf {α : Type} : R α → Option (Str × Str × Str)
  | .error (.missingKey a b c) => some (a, b, c)
  | _ => none

def lookupIntoOf {α : Type} : R α → Option (Str × Str × Str)
  | .error (.lookupInto a b c) => some (a, b, c)
  | _ => none

mutual
/-- A token as text: `L(..)` literal, `R[..]` reference, `C[..]` combined. -/
def tokText : Token → Str
  | .lit s => 'L' :: '(' :: s ++ [')']
  | .ref ps => 'R' :: '[' :: tokTextL ps ++ [']']
  | .combined ps => 'C' :: '[' :: tokTextL ps ++ [']']
def tokTextL : List Token → Str
  | [] => []
  | t :: ts => tokText t ++ tokTextL ts
end

def parseText (s : Str) : Option Str :=
  match Token.parse s with
  | .ok (some t) => some (tokText t)
  | _ => none

example : Token.parse "${b}".toList = .ok (some (.ref [.lit "b".toList])) := by decide +kernel

/-- `${${c}:x}` parses to `Ref [Ref [Lit c], Lit ":x"]`. -/
example : parseText "${${c}:x}".toList = some "R[R[L(c)]L(:x)]".toList := by
  -- `String.toList_ofList`: the kernel's own evaluation of `String.toList` is quadratic
  rw [String.toList_ofList, String.toList_ofList]; decide +kernel
example : tokText (.ref [.ref [.lit "c".toList], .lit ":x".toList]) = "R[R[L(c)]L(:x)]".toList := by
  conv => rhs; rw [String.toList_ofList]
  decide +kernel

/-- The render of `demo`: the reference became the (rendered) mapping, kind preserved. -/
theorem demo_render : renderParamsF 50 demo =
    .ok ⟨[(.str "a".toList, .map [(.str "x".toList, .num (.int 1))] [] []),
          (.str "b".toList, .map [(.str "x".toList, .num (.int 1))] [] [])], [], []⟩ := by
  decide +kernel

example : C07.renderJson 50 demo = some "{\"a\":{\"x\":1},\"b\":{\"x\":1}}".toList := by
  rw [String.toList_ofList]; decide +kernel

/-- All hypotheses of `whole_ref_final_top` hold for `demo`. -/
example : ∃ a b, lookup (.str "a".toList)
      [(.str "a".toList, .map [(.str "x".toList, .num (.int 1))] [] []),
       (.str "b".toList, .map [(.str "x".toList, .num (.int 1))] [] [])] = some a ∧
    lookup (.str "b".toList)
      [(.str "a".toList, .map [(.str "x".toList, .num (.int 1))] [] []),
       (.str "b".toList, .map [(.str "x".toList, .num (.int 1))] [] [])] = some b ∧
    erase a = erase b :=
  whole_ref_final_top (k := .str "a".toList) (s := "${b}".toList) (k0 := "b".toList)
    demo_wf demo_render (by decide +kernel) (by decide +kernel) (by decide) (by decide)

/-- `whole_ref_top` applied: whatever `${b}` renders to in `demo` is the rendered mapping `b`. -/
example {n : Nat} {r : Value} {st st' : RState}
    (h : tokRender n demo (.ref [.lit "b".toList]) st = .ok (r, st')) :
    erase r = .map [(.str "x".toList, .num (.int 1))] [] [] :=
  whole_ref_top (m := 10) (st0 := {}) (st0' := {})
    (r0 := .map [(.str "x".toList, .num (.int 1))] [] []) demo_wf (by decide) (by rfl) h (by rfl)

/-- … and it does render. -/
example : (tokRender 20 demo (.ref [.lit "b".toList]) {}).toOption.map Prod.fst =
    some (.map [(.str "x".toList, .num (.int 1))] [] []) := by decide +kernel

/-- A nested reference in the path: `${${c}:x}` (token `Ref [Ref [Lit c], Lit ":x"]`) renders to
the number `1` found at `b:x` (`whole_ref_path` with all hypotheses discharged). -/
example {n : Nat} {r : Value} {st st' : RState}
    (h : tokRender n demoNested (.ref [.ref [.lit "c".toList], .lit ":x".toList]) st = .ok (r, st')) :
    erase r = .num (.int 1) :=
  whole_ref_path (j := 20) (sp := {}) (path := "b:x".toList) (k0 := "b".toList)
    (segs := ["x".toList]) (vt := .num (.int 1)) (m := 5) (st0 := {}) (st0' := {})
    (r0 := .num (.int 1)) demoNested_wf (by rfl) (by rfl) (by rfl) (by rfl) h (by rfl)

/-- … and it does render (to JSON text `1`), also as part of the whole parameters. -/
example : (tokRender 20 demoNested (.ref [.ref [.lit "c".toList], .lit ":x".toList]) {}).toOption.map
    (fun p => jsonOf p.1) = some (.ok "1".toList) := by decide +kernel

example : C07.renderJson 50 demoNested = some "{\"a\":1,\"b\":{\"x\":1},\"c\":\"b\"}".toList := by
  rw [String.toList_ofList]; decide +kernel

/-- `a` refers to the number at `b:x`. -/
def demoPath : Mapping :=
  ⟨[(.str "a".toList, .str "${b:x}".toList),
    (.str "b".toList, .map [(.str "x".toList, .num (.int 1))] [] [])], [], []⟩

theorem demoPath_wf : WF demoPath.toValue := by decide +kernel

theorem demoPath_render : renderParamsF 12 demoPath =
    .ok ⟨[(.str "a".toList, .num (.int 1)),
          (.str "b".toList, .map [(.str "x".toList, .num (.int 1))] [] [])], [], []⟩ := by
  decide +kernel

/-- All hypotheses of `whole_ref_final_path` hold for `demoPath`. -/
example : ∃ a b, lookup (.str "a".toList)
      [(.str "a".toList, .num (.int 1)),
       (.str "b".toList, .map [(.str "x".toList, .num (.int 1))] [] [])] = some a ∧
    rawPath (Mapping.toValue ⟨[(.str "a".toList, .num (.int 1)),
       (.str "b".toList, .map [(.str "x".toList, .num (.int 1))] [] [])], [], []⟩)
       ["b".toList, "x".toList] = some b ∧
    erase a = erase b :=
  whole_ref_final_path (k := .str "a".toList) (s := "${b:x}".toList) (j := 5) (sp := {})
    (parts := [.lit "b:x".toList]) (path := "b:x".toList) (vt := .num (.int 1))
    demoPath_wf demoPath_render (by decide +kernel) (by decide +kernel) (by rfl) (by rfl) (by rfl)
    (by rfl)

/-- A path that does not exist: the error names the reference text, the missing key and the
parameter being rendered. -/
example : missingKeyOf (renderParamsF 50 ⟨[(.str "a".toList, .str "${nope}".toList)], [], []⟩) =
    some ("nope".toList, "nope".toList, "a".toList) := by decide +kernel

example : missingKeyOf (renderParamsF 50 ⟨[(.str "a".toList, .str "${b:y}".toList),
      (.str "b".toList, .map [(.str "x".toList, .num (.int 1))] [] [])], [], []⟩) =
    some ("b:y".toList, "y".toList, "a".toList) := by decide +kernel

example : lookupIntoOf (renderParamsF 50 ⟨[(.str "a".toList, .str "${b:x:z}".toList),
      (.str "b".toList, .map [(.str "x".toList, .num (.int 1))] [] [])], [], []⟩) =
    some ("b:x:z".toList, "z".toList, "a".toList) := by decide +kernel

/-- `missing_top_key` with all hypotheses discharged. -/
example : tokResolve 5 ⟨[(.str "a".toList, .str "${nope}".toList)], [], []⟩
      (.ref [.lit "nope".toList]) {} =
    .error (.missingKey "nope".toList "nope".toList []) :=
  missing_top_key (segs := []) (by decide) (by rfl) (by simp) (by rfl) (by rfl)

/-- `missing_nested_key` / `lookup_into_scalar` with all hypotheses discharged. -/
example : descend 3 {} (.map [(.str "x".toList, .null)] [] []) ["y".toList] {} "b:y".toList =
    .error (.missingKey "b:y".toList "y".toList []) :=
  missing_nested_key (st' := {}) (by rfl) (by rfl)

example : descend 3 {} (.num (.int 1)) ["z".toList] {} "b:x:z".toList =
    .error (.lookupInto "b:x:z".toList "z".toList []) :=
  lookup_into_scalar (st' := {}) (by rfl) (by rfl) (by rfl) (by rfl)

example : demoSwapped.es.Perm demo.es := List.Perm.swap _ _ _

example : renderParamsF 50 demoSwapped =
    .ok ⟨[(.str "b".toList, .map [(.str "x".toList, .num (.int 1))] [] []),
          (.str "a".toList, .map [(.str "x".toList, .num (.int 1))] [] [])], [], []⟩ := by
  decide +kernel

/-- `order_independence` with all hypotheses discharged. -/
example : ∃ out', renderParamsF 53 demoSwapped = .ok out' ∧
    out'.es.Perm [(.str "a".toList, .map [(.str "x".toList, .num (.int 1))] [] []),
                  (.str "b".toList, .map [(.str "x".toList, .num (.int 1))] [] [])] :=
  (order_independence (root' := demoSwapped) demo_wf (List.Perm.swap _ _ _) rfl rfl demo_render).imp
    fun _ h => ⟨h.1, h.2.1⟩

/-- **Counterexample to order independence at the same fuel** (see the header): with fuel 7
`demo` renders, but with `b` written first the reference `a` is left with too little fuel. -/
theorem order_same_fuel_counterexample :
    renderParamsF 7 demo =
      .ok ⟨[(.str "a".toList, .map [(.str "x".toList, .num (.int 1))] [] []),
            (.str "b".toList, .map [(.str "x".toList, .num (.int 1))] [] [])], [], []⟩ ∧
    renderParamsF 7 demoSwapped = .error .fuel ∧ demoSwapped.es.Perm demo.es :=
  ⟨by decide +kernel, by decide +kernel, List.Perm.swap _ _ _⟩

end C03
end Reclass
