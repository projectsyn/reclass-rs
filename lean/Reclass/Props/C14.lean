/-
  C14 — Every file with extension .yml or .yaml under the classes (nodes) directory defines
  exactly one class (node), named by its relative path with separators turned into dots and
  the extension dropped, X/init.yml naming X; nodes are named by file basename unless
  node-name composition is on, in which case nested paths compose except below directories
  starting with _.  Other files are ignored, and two files yielding the same name are
  rejected with an error naming both.

  The statements are about `deriveEntity` and `walkEntries` (`walk_entity_dir`, `src/lib.rs`)
  and the file-name functions `fileExtension` / `fileStem` / `stemNoExt` (`Path::extension`,
  `file_stem`, `with_extension("")`).  The directory walk itself is outside the model: an entry
  is its list of path segments below the root (`e.rel = dirs ++ [fname]`) and whether it is a file.
-/
import Reclass.Lemmas.NamingL
import Reclass.Lemmas.DecEq
namespace Reclass
namespace C14

def YamlExt (ext : Str) : Prop := ext = "yml".toList ∨ ext = "yaml".toList

theorem yamlExt_nodot {ext : Str} (h : YamlExt ext) : ∀ c ∈ ext, c ≠ '.' := by
  rcases h with rfl | rfl <;> decide

theorem yamlExt_isYamlExt {ext : Str} (h : YamlExt ext) : isYamlExt ext = true :=
  (isYamlExt_iff ext).2 h

/-! ### File names -/

/-- `stem.ext` with a non-empty stem and a dot-free `ext` (other than the name `..`) has
extension `ext` and stem `stem`; the stem itself may contain dots (`a.b.yml` has stem `a.b`). -/
theorem name_split (stem ext : Str) (hstem : stem ≠ []) (hext : ∀ c ∈ ext, c ≠ '.')
    (hdd : stem ++ '.' :: ext ≠ ['.', '.']) :
    fileExtension (stem ++ '.' :: ext) = some ext ∧ fileStem (stem ++ '.' :: ext) = stem :=
  ⟨fileExtension_append hstem hext hdd, fileStem_append hstem hext hdd⟩

/-- Conversely a file name has extension `ext` only if it is `stem.ext` with a non-empty
stem and dot-free `ext`: no extension for `foo`, `.yml` (hidden file), `..`. -/
theorem name_split_conv (name ext : Str) (h : fileExtension name = some ext) :
    name = fileStem name ++ '.' :: ext ∧ fileStem name ≠ [] ∧ (∀ c ∈ ext, c ≠ '.') :=
  let ⟨h1, h2, h3, _⟩ := fileExtension_some h
  ⟨h1, h2, h3⟩

/-! ### Which entries define an entity -/

/-- **Other files are ignored**: an entry whose last segment does not have extension `yml`
or `yaml`, or which is not a file, defines nothing. -/
theorem non_yaml_ignored (isNode compose : Bool) (e : DirEntry) (dirs : List Str) (fname : Str)
    (hrel : e.rel = dirs ++ [fname])
    (h : (∀ ext, fileExtension fname = some ext → ¬ YamlExt ext) ∨ e.isFile = false) :
    deriveEntity isNode compose e = none := by
  cases hx : fileExtension fname with
  | none => exact deriveEntity_noext hrel hx
  | some ext =>
    apply deriveEntity_notyaml hrel hx
    rcases h with h | h
    · left
      cases hy : isYamlExt ext with
      | false => rfl
      | true => exact absurd ((isYamlExt_iff ext).1 hy) (h ext hx)
    · exact Or.inr h

/-- The root itself (empty relative path) defines nothing. -/
theorem empty_path_ignored (isNode compose : Bool) (e : DirEntry) (h : e.rel = []) :
    deriveEntity isNode compose e = none :=
  deriveEntity_nil h

/-- **Only YAML files define entities**: whatever is derived comes from a file whose name
is `stem.yml` or `stem.yaml` with a non-empty stem, and the derived information records
the path of that file. -/
theorem entity_only_from_yaml (isNode compose : Bool) (e : DirEntry) (name : Str) (info : EntityInfo)
    (h : deriveEntity isNode compose e = some (name, info)) :
    e.isFile = true ∧ info.path = e.rel ∧
    ∃ dirs stem ext, e.rel = dirs ++ [stem ++ '.' :: ext] ∧ stem ≠ [] ∧ YamlExt ext := by
  obtain ⟨hf, dirs, fname, ext, hrel, hext, hy⟩ := deriveEntity_some_yaml h
  obtain ⟨h1, h2, _, _⟩ := fileExtension_some hext
  refine ⟨hf, deriveEntity_path h, dirs, fileStem fname, ext, ?_, h2, (isYamlExt_iff ext).1 hy⟩
  rw [← h1]; exact hrel

/-- **Every YAML file defines exactly one entity** (general form).  The naming segments are
`dirs ++ [stem]`, or `dirs` when the stem is `init` (`entitySegs`); a node without composition,
or below a first segment that starts with `_`, is named by the last segment alone and located
in the root; everything else is named by the segments joined with dots and located in its
directory (the parent directory for `init` files). -/
theorem derive_general (isNode compose : Bool) (e : DirEntry) (dirs : List Str) (stem ext : Str)
    (hrel : e.rel = dirs ++ [stem ++ '.' :: ext]) (hf : e.isFile = true) (hext : YamlExt ext)
    (hne : stem ≠ []) (hdot : stem ≠ ['.'])
    (hslash : ∀ s ∈ entitySegs dirs stem, ∀ c ∈ s, c ≠ '/') :
    deriveEntity isNode compose e = some (
      if isNode && ((entitySegs dirs stem).head?.bind List.head? = some '_' || !compose) then
        ((entitySegs dirs stem).getLast?.getD [], { path := e.rel, loc := [] })
      else
        (joinWith ['.'] (entitySegs dirs stem), { path := e.rel, loc := entityLoc dirs stem })) := by
  have hnd := yamlExt_nodot hext
  have hst : stemNoExt (stem ++ '.' :: ext) = stem := stemNoExt_append hne hdot hnd
  have hx : fileExtension (stem ++ '.' :: ext) = some ext :=
    fileExtension_append hne hnd (ne_dotdot_of_stem hne hdot)
  have := deriveEntity_yaml (isNode := isNode) (compose := compose) hrel hx (yamlExt_isYamlExt hext) hf
    (by rw [hst]; exact hslash)
  rw [hst] at this
  exact this

/-- The same for a stem other than `init`: the naming segments are `dirs ++ [stem]`. -/
theorem derive_noninit (isNode compose : Bool) (e : DirEntry) (dirs : List Str) (stem ext : Str)
    (hrel : e.rel = dirs ++ [stem ++ '.' :: ext]) (hf : e.isFile = true) (hext : YamlExt ext)
    (hne : stem ≠ []) (hdot : stem ≠ ['.']) (hinit : stem ≠ "init".toList)
    (hslash : ∀ s ∈ dirs ++ [stem], ∀ c ∈ s, c ≠ '/') :
    deriveEntity isNode compose e = some (
      if isNode && ((dirs ++ [stem]).head?.bind List.head? = some '_' || !compose) then
        (stem, { path := e.rel, loc := [] })
      else (joinWith ['.'] (dirs ++ [stem]), { path := e.rel, loc := dirs })) := by
  have hs : entitySegs dirs stem = dirs ++ [stem] := if_neg hinit
  have := derive_general isNode compose e dirs stem ext hrel hf hext hne hdot (hs ▸ hslash)
  rwa [hs, show entityLoc dirs stem = dirs from if_neg hinit, List.getLast?_concat, Option.getD_some] at this

/-- **Classes** are named by the relative path with the extension dropped and separators
turned into dots; relative includes of the class resolve against its directory. -/
theorem derive_class_plain (compose : Bool) (e : DirEntry) (dirs : List Str) (stem ext : Str)
    (hrel : e.rel = dirs ++ [stem ++ '.' :: ext]) (hf : e.isFile = true) (hext : YamlExt ext)
    (hne : stem ≠ []) (hdot : stem ≠ ['.']) (hinit : stem ≠ "init".toList)
    (hslash : ∀ s ∈ dirs ++ [stem], ∀ c ∈ s, c ≠ '/') :
    deriveEntity false compose e =
      some (joinWith ['.'] (dirs ++ [stem]), { path := e.rel, loc := dirs }) := by
  exact derive_noninit false compose e dirs stem ext hrel hf hext hne hdot hinit hslash

/-- **`X/init.yml` names `X`**: the file name is dropped, and the includes of that class
resolve against the parent of `X`. -/
theorem derive_class_init (compose : Bool) (e : DirEntry) (dirs : List Str) (ext : Str)
    (hrel : e.rel = dirs ++ ["init".toList ++ '.' :: ext]) (hf : e.isFile = true) (hext : YamlExt ext)
    (hslash : ∀ s ∈ dirs, ∀ c ∈ s, c ≠ '/') :
    deriveEntity false compose e =
      some (joinWith ['.'] dirs, { path := e.rel, loc := dropLast dirs }) := by
  have hs : entitySegs dirs "init".toList = dirs := if_pos rfl
  have := derive_general false compose e dirs "init".toList ext hrel hf hext
    (by rw [String.toList_ofList]; decide) (by rw [String.toList_ofList]; decide) (hs ▸ hslash)
  rwa [hs, show entityLoc dirs "init".toList = dropLast dirs from if_pos rfl] at this

/-- **Nodes without composition** are named by the file's basename at any depth, and
resolve their includes against the root. -/
theorem derive_node_basename (e : DirEntry) (dirs : List Str) (stem ext : Str)
    (hrel : e.rel = dirs ++ [stem ++ '.' :: ext]) (hf : e.isFile = true) (hext : YamlExt ext)
    (hne : stem ≠ []) (hdot : stem ≠ ['.']) (hinit : stem ≠ "init".toList)
    (hslash : ∀ s ∈ dirs ++ [stem], ∀ c ∈ s, c ≠ '/') :
    deriveEntity true false e = some (stem, { path := e.rel, loc := [] }) := by
  rw [derive_noninit true false e dirs stem ext hrel hf hext hne hdot hinit hslash, Bool.not_false, Bool.or_true]
  rfl

/-- **Nodes with composition**: when the first path segment does not start with `_`, nested
paths compose — the name is the dotted relative path, exactly as for classes. -/
theorem derive_node_composed (e : DirEntry) (dirs : List Str) (stem ext : Str)
    (hrel : e.rel = dirs ++ [stem ++ '.' :: ext]) (hf : e.isFile = true) (hext : YamlExt ext)
    (hne : stem ≠ []) (hdot : stem ≠ ['.']) (hinit : stem ≠ "init".toList)
    (hslash : ∀ s ∈ dirs ++ [stem], ∀ c ∈ s, c ≠ '/')
    (hfirst : (dirs ++ [stem]).head?.bind List.head? ≠ some '_') :
    deriveEntity true true e =
      some (joinWith ['.'] (dirs ++ [stem]), { path := e.rel, loc := dirs }) := by
  rw [derive_noninit true true e dirs stem ext hrel hf hext hne hdot hinit hslash, decide_eq_false hfirst]
  rfl

/-- **Nodes with composition below a `_`-directory**: when the first path segment starts
with `_`, the node is named by the file's basename alone. -/
theorem derive_node_underscore (e : DirEntry) (dirs : List Str) (stem ext : Str)
    (hrel : e.rel = dirs ++ [stem ++ '.' :: ext]) (hf : e.isFile = true) (hext : YamlExt ext)
    (hne : stem ≠ []) (hdot : stem ≠ ['.']) (hinit : stem ≠ "init".toList)
    (hslash : ∀ s ∈ dirs ++ [stem], ∀ c ∈ s, c ≠ '/')
    (hfirst : (dirs ++ [stem]).head?.bind List.head? = some '_') :
    deriveEntity true true e = some (stem, { path := e.rel, loc := [] }) := by
  rw [derive_noninit true true e dirs stem ext hrel hf hext hne hdot hinit hslash, decide_eq_true hfirst]
  rfl

def derivedNames (isNode compose : Bool) (entries : List DirEntry) : List Str :=
  (entries.filterMap (deriveEntity isNode compose)).map Prod.fst

/-- **No collision, no error**: if the derived names are pairwise distinct the walk
succeeds, and its result is the list of derived (name, info) pairs in walk order. -/
theorem walk_ok (isNode compose : Bool) (root : Str) (entries : List DirEntry)
    (h : (derivedNames isNode compose entries).Nodup) :
    walkEntries isNode compose root entries [] = .ok (entries.filterMap (deriveEntity isNode compose)) := by
  have := walkEntries_ok_of_nodup isNode compose root entries [] (by simpa [derivedNames] using h)
  simpa using this

/-- **What a successful walk returns**: exactly the derived pairs, each coming from a listed
entry, with pairwise distinct names. -/
theorem walk_lookup (isNode compose : Bool) (root : Str) (entries : List DirEntry)
    (l : List (Str × EntityInfo)) (h : walkEntries isNode compose root entries [] = .ok l) :
    l = entries.filterMap (deriveEntity isNode compose) ∧
    (l.map Prod.fst).Nodup ∧
    (∀ name info, (name, info) ∈ l → ∃ e ∈ entries, deriveEntity isNode compose e = some (name, info)) ∧
    (∀ e ∈ entries, ∀ name info, deriveEntity isNode compose e = some (name, info) → (name, info) ∈ l) := by
  obtain ⟨h1, h2⟩ := walkEntries_ok_inv isNode compose root entries [] l h
  have h1' : l = entries.filterMap (deriveEntity isNode compose) := by simpa using h1
  refine ⟨h1', h2 (by simp), ?_, ?_⟩
  · intro name info hm
    rw [h1'] at hm
    obtain ⟨e, he, hd⟩ := List.mem_filterMap.1 hm
    exact ⟨e, he, hd⟩
  · intro e he name info hd
    rw [h1']
    exact List.mem_filterMap.2 ⟨e, he, hd⟩

/-- **Two files yielding the same name are rejected with an error naming both.**  Every
failure of the walk is a collision: there are two listed entries at different positions,
`e1` before `e2`, deriving the same name `n`; `e2` is the first entry whose name was already
taken (all names up to it are distinct); and the error is `collision n a b` where `a`, `b`
are the full paths of the two files in string order. -/
theorem walk_collision (isNode compose : Bool) (root : Str) (entries : List DirEntry) (err : Err)
    (h : walkEntries isNode compose root entries [] = .error err) :
    ∃ p1 e1 p2 e2 p3 n i1 i2,
      entries = p1 ++ e1 :: (p2 ++ e2 :: p3) ∧
      deriveEntity isNode compose e1 = some (n, i1) ∧
      deriveEntity isNode compose e2 = some (n, i2) ∧
      (derivedNames isNode compose (p1 ++ e1 :: p2)).Nodup ∧
      err = if strLt (pathText root e1.rel) (pathText root e2.rel)
            then .collision n (pathText root e1.rel) (pathText root e2.rel)
            else .collision n (pathText root e2.rel) (pathText root e1.rel) := by
  obtain ⟨pre, e2, post, n, i2, prev, hsplit, hd2, hfind, hnd, herr⟩ :=
    walkEntries_error_inv isNode compose root entries [] err h
  simp only [List.nil_append] at hfind
  obtain ⟨hpn, hpm⟩ := find?_name_some hfind
  obtain ⟨e1, he1, hd1⟩ := List.mem_filterMap.1 hpm
  obtain ⟨p1, p2, hpre⟩ := List.append_of_mem he1
  obtain ⟨pn, i1⟩ := prev
  simp only at hpn; subst hpn
  refine ⟨p1, e1, p2, e2, post, pn, i1, i2, ?_, hd1, hd2, ?_, ?_⟩
  · rw [hsplit, hpre]; simp
  · have := hnd (by simp)
    simpa [derivedNames, hpre] using this
  · rw [herr]
    simp only [deriveEntity_path hd1, deriveEntity_path hd2]

/-- **Exactly when**: the walk fails if and only if two listed entries derive the same name. -/
theorem walk_fails_iff (isNode compose : Bool) (root : Str) (entries : List DirEntry) :
    (∃ err, walkEntries isNode compose root entries [] = .error err) ↔
      ¬ (derivedNames isNode compose entries).Nodup := by
  constructor
  · rintro ⟨err, h⟩ hn
    rw [walk_ok isNode compose root entries hn] at h
    cases h
  · intro hn
    cases h : walkEntries isNode compose root entries [] with
    | error err => exact ⟨err, rfl⟩
    | ok l =>
      obtain ⟨h1, h2, _⟩ := walk_lookup isNode compose root entries l h
      rw [h1] at h2
      exact absurd h2 hn

/-- **Colliding names always produce the collision error** (the converse of `walk_ok`,
combined with `walk_collision`). -/
theorem walk_dup_error (isNode compose : Bool) (root : Str) (entries : List DirEntry)
    (hn : ¬ (derivedNames isNode compose entries).Nodup) :
    ∃ n a b, walkEntries isNode compose root entries [] = .error (.collision n a b) := by
  obtain ⟨err, h⟩ := (walk_fails_iff isNode compose root entries).2 hn
  obtain ⟨p1, e1, p2, e2, p3, n, i1, i2, _, _, _, _, herr⟩ :=
    walk_collision isNode compose root entries err h
  rw [h, herr]
  split
  · exact ⟨_, _, _, rfl⟩
  · exact ⟨_, _, _, rfl⟩

/-- **Walk order does not matter**: for two orders of the same entries, the walk succeeds
for both or fails for both, and on success the two results hold the same pairs. -/
theorem walk_perm_success (isNode compose : Bool) (root : Str) (entries entries' : List DirEntry)
    (hp : entries.Perm entries') :
    ((∃ err, walkEntries isNode compose root entries [] = .error err) ↔
      (∃ err, walkEntries isNode compose root entries' [] = .error err)) ∧
    (∀ l l', walkEntries isNode compose root entries [] = .ok l →
      walkEntries isNode compose root entries' [] = .ok l' → l.Perm l') := by
  have hfm := hp.filterMap (deriveEntity isNode compose)
  constructor
  · rw [walk_fails_iff, walk_fails_iff]
    have := (hfm.map Prod.fst).nodup_iff
    simp only [derivedNames, this]
  · intro l l' h h'
    rw [(walk_lookup isNode compose root entries l h).1, (walk_lookup isNode compose root entries' l' h').1]
    exact hfm

/-! ### Non-vacuity -/

-- classes: a plain file, `init.yml`, a nested `init.yaml`
example : deriveEntity false false { rel := ["d1".toList, "c.yml".toList], isFile := true } =
    some ("d1.c".toList, { path := ["d1".toList, "c.yml".toList], loc := ["d1".toList] }) := by decide +kernel
example : deriveEntity false false { rel := ["d1".toList, "init.yml".toList], isFile := true } =
    some ("d1".toList, { path := ["d1".toList, "init.yml".toList], loc := [] }) := by decide +kernel
example : deriveEntity false false { rel := ["d1".toList, "d2".toList, "init.yaml".toList], isFile := true } =
    some ("d1.d2".toList, { path := ["d1".toList, "d2".toList, "init.yaml".toList], loc := ["d1".toList] }) := by
  decide +kernel
-- a stem may contain dots
example : deriveEntity false false { rel := ["a.b.yml".toList], isFile := true } =
    some ("a.b".toList, { path := ["a.b.yml".toList], loc := [] }) := by decide +kernel
-- ignored: other extension, hidden file `.yml`, directory named like a YAML file
example : deriveEntity false false { rel := ["d1".toList, "c.txt".toList], isFile := true } = none := by decide +kernel
example : deriveEntity false false { rel := [".yml".toList], isFile := true } = none := by decide +kernel
example : deriveEntity false false { rel := ["d.yml".toList], isFile := false } = none := by decide +kernel
-- nodes: basename without composition, dotted path with composition, basename below `_x`
example : deriveEntity true false { rel := ["d1".toList, "n.yml".toList], isFile := true } =
    some ("n".toList, { path := ["d1".toList, "n.yml".toList], loc := [] }) := by decide +kernel
example : deriveEntity true true { rel := ["d1".toList, "n.yml".toList], isFile := true } =
    some ("d1.n".toList, { path := ["d1".toList, "n.yml".toList], loc := ["d1".toList] }) := by decide +kernel
example : deriveEntity true true { rel := ["_d1".toList, "n.yml".toList], isFile := true } =
    some ("n".toList, { path := ["_d1".toList, "n.yml".toList], loc := [] }) := by decide +kernel

-- why `stem ≠ ['.']` is assumed: `Path::with_extension("")` turns the file `..yml` into `..`
example : deriveEntity false false { rel := ["..yml".toList], isFile := true } =
    some ("..".toList, { path := ["..yml".toList], loc := [] }) := by decide +kernel

-- the hypotheses of `derive_class_plain` are satisfiable
example : deriveEntity false false { rel := ["d1".toList] ++ ["c".toList ++ '.' :: "yml".toList], isFile := true } =
    some (joinWith ['.'] (["d1".toList] ++ ["c".toList]),
      { path := ["d1".toList] ++ ["c".toList ++ '.' :: "yml".toList], loc := ["d1".toList] }) :=
  derive_class_plain false _ ["d1".toList] "c".toList "yml".toList rfl rfl (Or.inl rfl)
    (by decide) (by decide) (by decide) (by decide)

-- a collision: c.yml and c.yaml both name class `c`; the error names both files in string order
example : walkEntries false false "/inv/classes".toList
    [{ rel := ["c.yml".toList], isFile := true }, { rel := ["b.yml".toList], isFile := true },
     { rel := ["c.yaml".toList], isFile := true }] [] =
    .error (.collision "c".toList "/inv/classes/c.yaml".toList "/inv/classes/c.yml".toList) := by
  -- the kernel evaluates `String.toList` of a literal in quadratic time; rewrite it to the character list first
  repeat rw [String.toList_ofList]
  decide +kernel
example : walkEntries false false "/inv/classes".toList
    [{ rel := ["c.yml".toList], isFile := true }, { rel := ["README".toList], isFile := true },
     { rel := ["d".toList, "init.yml".toList], isFile := true }] [] =
    .ok [("c".toList, { path := ["c.yml".toList], loc := [] }),
         ("d".toList, { path := ["d".toList, "init.yml".toList], loc := [] })] := by decide +kernel

end C14
end Reclass
