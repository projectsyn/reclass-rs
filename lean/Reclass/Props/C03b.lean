/-
  C03 (continued) — Whole-value references whose path passes through multiply-defined keys (layer
  lists) and unparsed string references.  There `Token::resolve` interpolates only the `String`
  layers, merges the otherwise RAW layers and looks the next segment up in that merge, whereas
  rendering interpolates EVERY layer, merges, and interpolates the merge again; both routes
  arrive at exactly the same value (flag sets included) if no layer of the target entry holds a
  further layer list (`Layered`) — which is what merging class parameters yields, except when one
  YAML mapping writes a key twice with a marker (`{k: …, "=k": …}`).
  FINDING — without `Layered` the routes DISAGREE (`layered_needed`, `layered_needed_yaml`,
  `layered_needed_override`; `Value::merge` is not associative across `Null`/override): with
  class 1 `{t: {k: {p: 1}}}`, class 2 `{t: {k: ~, "=k": {q: 2}}}`, node `{a: "${t:k}"}`, the Rust
  implementation too (harness `rvh run`, op `params`) returns `t.k = {p: 1, q: 2}` but `a = {q: 2}`.
-/
import Reclass.Lemmas.CommuteL
namespace Reclass
namespace C03

open Refs Commute

/-! ### 6. References through multiply-defined keys -/

/-- The value at a `:`-path inside rendered data: iterated `IndexMap::get` through mappings,
`none` as soon as a value on the way is not a mapping or lacks the key.  (The same function as
`Refs.rawPath`; the name records that it is applied to *rendered*, closed values here.) -/
abbrev closedPath (v : Value) (segs : List Str) : Option Value := rawPath v segs

/-- A value as merging leaves it in the parameters: it contains no layer list at all
(`Commute.VlFree`), or it is a layer list whose layers contain none. -/
abbrev Layered := Commute.Layered

/-- **Reference = value at the path of the rendered target, through layer lists and string
references.**  Let the parameters be well-formed, let the path pieces of a reference render to
`path = k0:s1:…:sm`, and let the parameters hold `v0` under `k0`, where no layer of `v0` contains
a further layer list (`Layered`).  `v0` and the values passed on the way may be layer lists (with
mapping, string-reference, scalar or `Null` layers, constant/override flags allowed) or string
references.  If `Token::render` of the reference succeeds with `r`, and `Value::interpolate` of
`v0` — from any state, with any fuel — succeeds with `x0`, then the segments `s1 … sm` can be
walked through the mappings of `x0` and the value found there is exactly `r`: same kind, same
data, same flag sets. -/
theorem whole_ref_layered {n m j : Nat} {root : Mapping} {parts : List Token} {path k0 : Str}
    {segs : List Str} {v0 r x0 : Value} {st st' sp s0 s0' : RState}
    (hw : WF root.toValue) (hpath : slice j root parts sp = .ok path)
    (hsplit : splitColon path = k0 :: segs) (hget : root.get (.str k0) = some v0)
    (hlay : Layered v0)
    (h : tokRender n root (.ref parts) st = .ok (r, st'))
    (h0 : interp m root v0 s0 = .ok (x0, s0')) : closedPath x0 segs = some r := by
  have hv0 : WF v0 := by
    simp only [Mapping.toValue, WF] at hw
    exact lookup_some_wf hw.1 hget
  obtain ⟨k, sd, vd, s3, v, s1, h3, h1, h⟩ := tokRender_ref_path hpath hsplit hget h
  obtain ⟨y, sy, hy, hvd, hwd⟩ := descend_path hw segs k v0 vd sd s3 x0 s0 hv0 hlay ⟨m, s0', h0⟩ h3
  rw [finalLoop_then_interp_exact hw hwd h1 h hvd]
  exact hy

/-- `whole_ref_layered` seen from `Value::interpolate` of the string that holds the reference. -/
theorem whole_ref_interp_layered {n m j : Nat} {root : Mapping} {s : Str} {parts : List Token}
    {path k0 : Str} {segs : List Str} {v0 r x0 : Value} {st st' sp s0 s0' : RState}
    (hw : WF root.toValue) (hparse : Token.parse s = .ok (some (.ref parts)))
    (hpath : slice j root parts sp = .ok path)
    (hsplit : splitColon path = k0 :: segs) (hget : root.get (.str k0) = some v0)
    (hlay : Layered v0)
    (h : interp n root (.str s) st = .ok (r, st'))
    (h0 : interp m root v0 s0 = .ok (x0, s0')) : closedPath x0 segs = some r := by
  cases n with
  | zero => simp [interp] at h
  | succ n =>
    rw [interp_str, hparse] at h
    exact whole_ref_layered hw hpath hsplit hget hlay h h0

/-- **A rendered parameter is exactly the interpolation of the raw parameter** (strengthens
`render_entry`, which states it up to flag sets): the `flattened` passes of `Value::rendered`
return what `interpolate` produced unchanged, because that is closed and canonical. -/
theorem render_entry_exact {n : Nat} {root out : Mapping} {k : Key} {v : Value}
    (hw : WF root.toValue) (h : renderParamsF n root = .ok out) (hk : (k, v) ∈ root.es) :
    ∃ x s, interp n root v (({} : RState).pushMappingKey k) = .ok (x, s) ∧
      lookup k out.es = some x :=
  renderParamsF_entry hw h hk

/-- **In the rendered parameters, `k: ${k0:s1:…:sm}` equals what is found at `k0:s1:…:sm`** —
also when the path passes through keys defined by several classes or through string references
(extends `whole_ref_final_path`, which needs raw mappings on the way).  If rendering well-formed
parameters succeeds, `k` holds a string that parses to a whole-value reference whose path pieces
render to `path = k0:s1:…:sm`, and the raw entry `k0` has no layer list inside a layer
(`Layered`), then in the *output* the entry `k` exists, the walk `k0:s1:…:sm` through the output
mappings succeeds, and both are the very same value (so in particular equal up to `erase`). -/
theorem whole_ref_final_layered {n j : Nat} {root out : Mapping} {k : Key} {s : Str}
    {parts : List Token} {path k0 : Str} {segs : List Str} {v0 : Value} {sp : RState}
    (hw : WF root.toValue) (h : renderParamsF n root = .ok out)
    (hk : (k, .str s) ∈ root.es) (hparse : Token.parse s = .ok (some (.ref parts)))
    (hpath : slice j root parts sp = .ok path) (hsplit : splitColon path = k0 :: segs)
    (hget : root.get (.str k0) = some v0) (hlay : Layered v0) :
    ∃ a, lookup k out.es = some a ∧ closedPath out.toValue (k0 :: segs) = some a := by
  obtain ⟨xk, sk, hxk, hlk⟩ := render_entry_exact hw h hk
  obtain ⟨x0, s0, hx0, hl0⟩ := render_entry_exact hw h (lookup_mem_entry hget)
  have hp := whole_ref_interp_layered hw hparse hpath hsplit hget hlay hxk hx0
  refine ⟨xk, hlk, ?_⟩
  simp only [closedPath, Mapping.toValue, rawPath, hl0]
  exact hp

/-- `whole_ref_final_layered` in the shape of `whole_ref_final_path` (equality up to `erase`). -/
theorem whole_ref_final_layered_erase {n j : Nat} {root out : Mapping} {k : Key} {s : Str}
    {parts : List Token} {path k0 : Str} {segs : List Str} {v0 : Value} {sp : RState}
    (hw : WF root.toValue) (h : renderParamsF n root = .ok out)
    (hk : (k, .str s) ∈ root.es) (hparse : Token.parse s = .ok (some (.ref parts)))
    (hpath : slice j root parts sp = .ok path) (hsplit : splitColon path = k0 :: segs)
    (hget : root.get (.str k0) = some v0) (hlay : Layered v0) :
    ∃ a b, lookup k out.es = some a ∧ rawPath out.toValue (k0 :: segs) = some b ∧
      erase a = erase b := by
  obtain ⟨a, ha, hb⟩ := whole_ref_final_layered hw h hk hparse hpath hsplit hget hlay
  exact ⟨a, a, ha, hb, rfl⟩

/-- `Mapping::merge` — which is how the parameters of a node
are assembled from its classes — keeps "every value is `Layered`" as long as the mapping merged
in contains no layer list (`Commute.VlFreeEs`, true of YAML-decoded class parameters unless one
YAML mapping repeats a key with a marker): an existing key gets the new value appended to its
layer list, or replaced by it. -/
theorem merge_keeps_layered {a b c : Mapping} (ha : LayeredEs a.es) (hb : VlFreeEs b.es)
    (h : a.merge b = .ok c) : LayeredEs c.es := by
  unfold Mapping.merge at h
  exact mergeEntries_layered ha hb h

/-- … and every value of such parameters satisfies the hypothesis of the theorems above. -/
theorem layered_of_get {root : Mapping} {k : Key} {v : Value} (h : LayeredEs root.es)
    (hg : root.get k = some v) : Layered v := lookup_layered h hg

/-! ### Non-vacuity and the counterexample -/

private def S (s : String) : Str := s.toList
private def K (s : String) : Key := .str s.toList

/-- The JSON texts of entry `k` and of the value at path `p` in the rendered parameters. -/
def refVsPath (n : Nat) (root : Mapping) (k : Key) (p : List Str) : Option (Str × Str) :=
  match renderParamsF n root with
  | .ok out =>
    match lookup k out.es, closedPath out.toValue p with
    | some a, some b =>
      (match jsonOf a, jsonOf b with
       | .ok x, .ok y => some (x, y)
       | _, _ => none)
    | _, _ => none
  | .error _ => none

/-- `t` is defined three times: a mapping, the reference `${u}` (a mapping), a mapping; `k` occurs
in all three layers, `j` holds a reference.  `a`, `b`, `c` look into `t` through references. -/
def demoLayered : Mapping :=
  ⟨[(K "d", .map [(K "y", .num (.int 5))] [] []),
    (K "t", .vl [.map [(K "k", .map [(K "p", .num (.int 1))] [] []), (K "j", .str (S "${d}"))] [] [],
                 .str (S "${u}"),
                 .map [(K "k", .map [(K "q", .num (.int 2))] [] [])] [] []]),
    (K "u", .map [(K "k", .map [(K "r", .str (S "${d:y}"))] [] []), (K "z", .num (.int 0))] [] []),
    (K "a", .str (S "${t:k}")),
    (K "b", .str (S "${t:k:r}")),
    (K "c", .str (S "${t:j:y}"))], [], []⟩

private theorem demoLayered_render : renderParamsF 60 demoLayered = .ok
    ⟨[(K "d", .map [(K "y", .num (.int 5))] [] []),
      (K "t", .map [(K "k", .map [(K "p", .num (.int 1)), (K "r", .num (.int 5)),
                                  (K "q", .num (.int 2))] [] []),
                    (K "j", .map [(K "y", .num (.int 5))] [] []), (K "z", .num (.int 0))] [] []),
      (K "u", .map [(K "k", .map [(K "r", .num (.int 5))] [] []), (K "z", .num (.int 0))] [] []),
      (K "a", .map [(K "p", .num (.int 1)), (K "r", .num (.int 5)), (K "q", .num (.int 2))] [] []),
      (K "b", .num (.int 5)), (K "c", .num (.int 5))], [], []⟩ := by decide +kernel

/-- It renders; `a` is the three-way merge of `k`, `b` and `c` are the numbers found deeper. -/
example : C04.renderJson 60 demoLayered = some (S ("{\"a\":{\"p\":1,\"q\":2,\"r\":5},\"b\":5,\"c\":5," ++
    "\"d\":{\"y\":5},\"t\":{\"j\":{\"y\":5},\"k\":{\"p\":1,\"q\":2,\"r\":5},\"z\":0}," ++
    "\"u\":{\"k\":{\"r\":5},\"z\":0}}")) := by
  -- `String.toList_ofList`: the kernel's own evaluation of `String.toList` is quadratic
  rw [S, String.toList_append, String.toList_append, String.toList_ofList, String.toList_ofList,
    String.toList_ofList, C04.renderJson, demoLayered_render]
  decide +kernel

/-- Reference and path agree (`${t:k}` through a layered key, `${t:k:r}` two levels through layered
keys, `${t:j:y}` through a layer list and then a string reference). -/
example : refVsPath 60 demoLayered (K "a") [S "t", S "k"] =
    some (S "{\"p\":1,\"q\":2,\"r\":5}", S "{\"p\":1,\"q\":2,\"r\":5}") := by
  conv => rhs; rw [S, String.toList_ofList]
  rw [refVsPath, demoLayered_render]; decide +kernel
example : refVsPath 60 demoLayered (K "b") [S "t", S "k", S "r"] = some (S "5", S "5") := by
  rw [refVsPath, demoLayered_render]; decide +kernel
example : refVsPath 60 demoLayered (K "c") [S "t", S "j", S "y"] = some (S "5", S "5") := by
  rw [refVsPath, demoLayered_render]; decide +kernel

theorem demoLayered_wf : WF demoLayered.toValue := by decide +kernel

theorem demoLayered_t : Layered (.vl [.map [(K "k", .map [(K "p", .num (.int 1))] [] []),
      (K "j", .str (S "${d}"))] [] [], .str (S "${u}"),
      .map [(K "k", .map [(K "q", .num (.int 2))] [] [])] [] []]) := by
  simp [Layered, Commute.Layered, VlFreeL, VlFree, VlFreeEs]

/-- Bool test (for kernel evaluation of the parser): `s` parses to the reference `${a}`. -/
def isRefLit (s a : Str) : Bool :=
  match Token.parse s with
  | .ok (some (.ref [.lit b])) => b == a
  | _ => false

theorem isRefLit_sound {s a : Str} (h : isRefLit s a = true) :
    Token.parse s = .ok (some (.ref [.lit a])) := by
  unfold isRefLit at h
  split at h
  · rename_i b hb; rw [hb]; simp at h; rw [h]
  · simp at h

/-- All hypotheses of `whole_ref_final_layered` hold for `a: ${t:k}` in `demoLayered`. -/
example {n : Nat} {out : Mapping} (h : renderParamsF n demoLayered = .ok out) :
    ∃ a, lookup (K "a") out.es = some a ∧ closedPath out.toValue [S "t", S "k"] = some a :=
  whole_ref_final_layered (s := S "${t:k}") (parts := [.lit (S "t:k")]) (j := 2) (sp := {})
    (path := S "t:k") demoLayered_wf h (by simp [demoLayered])
    (isRefLit_sound (by decide +kernel)) (slice_single_lit 0 _ _ {}) (by rfl) (by rfl) demoLayered_t

/-- … and for `b: ${t:k:r}` (two segments below the layered key). -/
example {n : Nat} {out : Mapping} (h : renderParamsF n demoLayered = .ok out) :
    ∃ a, lookup (K "b") out.es = some a ∧ closedPath out.toValue [S "t", S "k", S "r"] = some a :=
  whole_ref_final_layered (s := S "${t:k:r}") (parts := [.lit (S "t:k:r")]) (j := 2) (sp := {})
    (path := S "t:k:r") demoLayered_wf h (by simp [demoLayered])
    (isRefLit_sound (by decide +kernel)) (slice_single_lit 0 _ _ {}) (by rfl) (by rfl) demoLayered_t

/-- Flags are allowed: the second layer overrides `k` (`~k` in YAML), a later layer adds to it. -/
def demoOverride : Mapping :=
  ⟨[(K "t", .vl [.map [(K "k", .map [(K "p", .num (.int 1))] [] [])] [] [],
                 .map [(K "k", .map [(K "q", .num (.int 2))] [] [])] [] [K "k"],
                 .map [(K "k", .map [(K "r", .num (.int 3))] [] [])] [] []]),
    (K "a", .str (S "${t:k}"))], [], []⟩

example : refVsPath 60 demoOverride (K "a") [S "t", S "k"] =
    some (S "{\"q\":2,\"r\":3}", S "{\"q\":2,\"r\":3}") := by
  conv => rhs; rw [S, String.toList_ofList]
  decide +kernel

/-- The second layer of `t` holds a layer list under `k`
(`[Null, {q: 2}]`).  The parameters are well-formed and have no directly nested layer lists, they
render, `a: ${t:k}` renders to `{"q":2}` — but the rendered `t` holds `{"p":1,"q":2}` under `k`. -/
def witness : Mapping :=
  ⟨[(K "a", .str (S "${t:k}")),
    (K "t", .vl [.map [(K "k", .map [(K "p", .num (.int 1))] [] [])] [] [],
                 .map [(K "k", .vl [.null, .map [(K "q", .num (.int 2))] [] []])] [] []])], [], []⟩

theorem layered_needed :
    refVsPath 60 witness (K "a") [S "t", S "k"] = some (S "{\"q\":2}", S "{\"p\":1,\"q\":2}") := by
  conv => rhs; unfold S; rw [String.toList_ofList, String.toList_ofList]
  decide +kernel

example : C04.renderJson 60 witness = some (S "{\"a\":{\"q\":2},\"t\":{\"k\":{\"p\":1,\"q\":2}}}") := by
  rw [S, String.toList_ofList]; decide +kernel

/-- The witness is well-formed and free of directly nested layer lists; only `Layered` fails. -/
theorem witness_wf : WF witness.toValue := by decide +kernel

theorem witness_noNest : NoNest witness.toValue := by decide +kernel

theorem witness_not_layered : ¬ Layered (.vl [.map [(K "k", .map [(K "p", .num (.int 1))] [] [])] [] [],
    .map [(K "k", .vl [.null, .map [(K "q", .num (.int 2))] [] []])] [] []]) := by
  simp [Layered, Commute.Layered, VlFreeL, VlFree, VlFreeEs]

/-- A one-entry mapping that holds the layer list `[null, {…}]`.  The YAML mapping
`{k: ~, "=k": {q: 2}}` decodes to one (example below): the second entry is inserted under the
stripped key `k`, which exists, so `insert_impl` appends. -/
def isNullThenMap : R Value → Bool
  | .ok (.map [(_, .vl [.null, .map _ _ _])] _ _) => true
  | _ => false

example : isNullThenMap (Value.ofYaml (.map [(.str (S "k"), .null),
    (.str (S "=k"), .map [(.str (S "q"), .num (.int 2))])])) = true := by decide +kernel

/-- The same counterexample with the second layer exactly as decoded from that YAML mapping
(constant flag on `k`). -/
def witnessYaml : Mapping :=
  ⟨[(K "a", .str (S "${t:k}")),
    (K "t", .vl [.map [(K "k", .map [(K "p", .num (.int 1))] [] [])] [] [],
                 .map [(K "k", .vl [.null, .map [(K "q", .num (.int 2))] [] []])] [K "k"] []])], [], []⟩

theorem layered_needed_yaml :
    refVsPath 60 witnessYaml (K "a") [S "t", S "k"] = some (S "{\"q\":2}", S "{\"p\":1,\"q\":2}") := by
  conv => rhs; unfold S; rw [String.toList_ofList, String.toList_ofList]
  decide +kernel

/-- The same with an override flag inside the inner layer list instead of `Null`: the raw merge
`[{j:{p:1}}, {j:{q:2}}, {~j:{r:3}}]` lets the override wipe `p`, the rendered route does not. -/
def witnessOverride : Mapping :=
  ⟨[(K "a", .str (S "${t:k}")),
    (K "t", .vl [.map [(K "k", .map [(K "j", .map [(K "p", .num (.int 1))] [] [])] [] [])] [] [],
                 .map [(K "k", .vl [.map [(K "j", .map [(K "q", .num (.int 2))] [] [])] [] [],
                                    .map [(K "j", .map [(K "r", .num (.int 3))] [] [])] [] [K "j"]])]
                   [] []])], [], []⟩

theorem layered_needed_override :
    refVsPath 80 witnessOverride (K "a") [S "t", S "k"] =
      some (S "{\"j\":{\"r\":3}}", S "{\"j\":{\"p\":1,\"r\":3}}") := by
  conv => rhs; unfold S; rw [String.toList_ofList, String.toList_ofList]
  decide +kernel

end C03
end Reclass
