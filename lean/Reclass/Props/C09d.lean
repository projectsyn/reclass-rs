/-
  C09d — Constant keys over whole stacks of layers.  `Props/C09` states the insert- and
  merge-level laws; here they are lifted to the two places where *stacks* of layers meet in the
  code: the class walk (`DeepMerge.mergeLayers`, the fold of `Mapping::merge` that
  `Node::merge_into` performs for the parameters of every class and finally of the node — the
  top level of the parameters), and rendering a multiply-defined *nested* mapping, whose layers
  `Value::flattened` / `Value::merge` (`flatVl`) merge — for two mappings again by
  `Mapping::merge`.
-/
import Reclass.Props.C09
import Reclass.Spec.DeepMerge
import Reclass.Lemmas.DecEq
namespace Reclass
namespace C09d
open DeepMerge

/-! ### The fold over layers -/

theorem mergeLayers_nil (b : Mapping) : mergeLayers b [] = .ok b := rfl

theorem mergeLayers_cons (b m : Mapping) (ms : List Mapping) :
    mergeLayers b (m :: ms) =
      match b.merge m with
      | .error e => .error e
      | .ok b' => mergeLayers b' ms := rfl

theorem mergeLayers_eq_foldlM (b : Mapping) (ms : List Mapping) :
    mergeLayers b ms = ms.foldlM Mapping.merge b := by
  induction ms generalizing b with
  | nil => rfl
  | cons m ms ih =>
    rw [List.foldlM_cons, mergeLayers]
    cases b.merge m with
    | error e => rfl
    | ok b' => exact ih b'

theorem flatVl_eq_foldlM (l : List Value) (base : Value) (st : RState) :
    flatVl l base st = l.foldlM (fun b v => mergeV b v st) base := by
  induction l generalizing base with
  | nil => rw [flatVl]; rfl
  | cons v l ih =>
    rw [List.foldlM_cons, flatVl]
    cases mergeV base v st with
    | error e => rfl
    | ok b => exact ih b

/-- Layers are merged left to right: a stack `pre ++ rest` merges `pre` first, exactly as it
would without `rest`, and continues from that result. -/
theorem mergeLayers_append (b : Mapping) (pre rest : List Mapping) :
    mergeLayers b (pre ++ rest) =
      match mergeLayers b pre with
      | .error e => .error e
      | .ok b' => mergeLayers b' rest := by
  simp only [mergeLayers_eq_foldlM, List.foldlM_append]
  cases pre.foldlM Mapping.merge b <;> rfl

/-- The layers before the constant definition merge as they do on their own: an error among
them is the stack's error. -/
theorem stack_layers_before_merge_normally (b : Mapping) (pre rest : List Mapping) (e : Err)
    (h : mergeLayers b pre = .error e) : mergeLayers b (pre ++ rest) = .error e := by
  rw [mergeLayers_append, h]

/-! ### 1. A constant survives every successfully merged layer, value included -/

theorem stack_const_persists (b b' : Mapping) (mid : List Mapping) (k0 : Key) (old : Value)
    (hk : k0 ∈ b.ck) (hl : lookup k0 b.es = some old) (h : mergeLayers b mid = .ok b') :
    k0 ∈ b'.ck ∧ lookup k0 b'.es = some old := by
  rw [mergeLayers_eq_foldlM] at h
  exact foldlM_ok_inv (fun b => k0 ∈ b.ck ∧ lookup k0 b.es = some old)
    (fun b m b1 _ hb h1 => ⟨C09.merge_keeps_const b m b1 k0 hb.1 h1,
      C09.merge_keeps_const_value b m b1 k0 old hb.1 hb.2 h1⟩) h ⟨hk, hl⟩

/-! ### 2. A later write to the constant key fails the whole stack -/

/-- Every failure of the fold is a constant-key rejection. -/
theorem stack_error_is_constKey (b : Mapping) (ms : List Mapping) (e : Err)
    (h : mergeLayers b ms = .error e) : ∃ k', e = .constKey k' := by
  rw [mergeLayers_eq_foldlM] at h
  obtain ⟨_, m, _, b1, _, _, h1⟩ := foldlM_error_split h
  exact C09.merge_error_is_constKey b1 m e h1

/-- `k0` is constant and present in `b`; after any layers `mid`, a layer `w` has an entry whose
stripped key is `k0` (written plainly, as `=k0` or as `~k0`), followed by any layers `post`:
the stack does not merge, and the error is a constant-key error. -/
theorem stack_const_then_write_fails (b w : Mapping) (mid post : List Mapping)
    (k k0 : Key) (v old : Value)
    (hk : k0 ∈ b.ck) (hl : lookup k0 b.es = some old)
    (hmem : (k, v) ∈ w.es) (hs : k.stripPrefix.1 = k0) :
    ∃ k', mergeLayers b (mid ++ w :: post) = .error (.constKey k') := by
  rw [mergeLayers_append]
  cases h : mergeLayers b mid with
  | error e =>
    obtain ⟨k', hk'⟩ := stack_error_is_constKey b mid e h
    exact ⟨k', by rw [hk']⟩
  | ok b' =>
    obtain ⟨hk', hl'⟩ := stack_const_persists b b' mid k0 old hk hl h
    obtain ⟨k', he⟩ := C09.const_then_write_fails_constKey b' w k k0 v old hk' hl' hmem hs
    exact ⟨k', by simp only [mergeLayers_cons, he]⟩

/-- The same counted from the empty base: `pre` are the layers up to and including the one that
made `k0` constant. -/
theorem stack_const_then_write_fails_from (base b w : Mapping) (pre mid post : List Mapping)
    (k k0 : Key) (v old : Value)
    (hpre : mergeLayers base pre = .ok b)
    (hk : k0 ∈ b.ck) (hl : lookup k0 b.es = some old)
    (hmem : (k, v) ∈ w.es) (hs : k.stripPrefix.1 = k0) :
    ∃ k', mergeLayers base (pre ++ (mid ++ w :: post)) = .error (.constKey k') := by
  rw [mergeLayers_append, hpre]
  exact stack_const_then_write_fails b w mid post k k0 v old hk hl hmem hs

/-- Exact error: when the layers in between merge and the entries of `w` before the offending
one merge, the error names exactly `k0`. -/
theorem stack_const_then_write_fails_exact (b b' m1 w : Mapping) (mid post : List Mapping)
    (k k0 : Key) (v old : Value) (epre epost : List (Key × Value))
    (hk : k0 ∈ b.ck) (hl : lookup k0 b.es = some old)
    (hmid : mergeLayers b mid = .ok b')
    (hes : w.es = epre ++ (k, v) :: epost) (hs : k.stripPrefix.1 = k0)
    (hepre : b'.mergeEntries w.ck w.ok epre = .ok m1) :
    mergeLayers b (mid ++ w :: post) = .error (.constKey k0) := by
  obtain ⟨hk', hl'⟩ := stack_const_persists b b' mid k0 old hk hl hmid
  rw [mergeLayers_append, hmid]
  simp only [mergeLayers_cons,
    C09.const_then_write_fails_exact b' w m1 k k0 v old epre epost hk' hl' hes hs hepre]

/-- A one-entry layer writing the constant key: the error names the key. -/
theorem stack_const_then_single_write_fails (b b' w : Mapping) (mid post : List Mapping)
    (k k0 : Key) (v old : Value)
    (hk : k0 ∈ b.ck) (hl : lookup k0 b.es = some old)
    (hmid : mergeLayers b mid = .ok b')
    (hes : w.es = [(k, v)]) (hs : k.stripPrefix.1 = k0) :
    mergeLayers b (mid ++ w :: post) = .error (.constKey k0) :=
  stack_const_then_write_fails_exact b b' b' w mid post k k0 v old [] [] hk hl hmid
    (by simpa using hes) hs rfl

/-! ### 2b. Which key a failed merge names -/

/-- A failed merge names the **first** offending entry in the order in which the layer lists
its entries: the entries before it merged, and its stripped key is present and constant at that
point.  (The error is a function of the two mappings' entry order; when one layer overwrites
several constants it is always the same one that is reported.) -/
theorem merge_error_names_first_violation (m other : Mapping) (e : Err)
    (h : m.merge other = .error e) :
    ∃ pre k v post m1, other.es = pre ++ (k, v) :: post ∧
      m.mergeEntries other.ck other.ok pre = .ok m1 ∧
      e = .constKey k.stripPrefix.1 ∧ k.stripPrefix.1 ∈ m1.ck ∧
      (lookup k.stripPrefix.1 m1.es).isSome := by
  rw [merge_eq, mergeEntries_eq_foldlM] at h
  obtain ⟨pre, ⟨k, v⟩, post, m1, hes, hpre, h1⟩ := foldlM_error_split h
  obtain ⟨he, hl, hc⟩ := (C09.insert_error_iff _ _ _ _ _ _).1 h1
  exact ⟨pre, k, v, post, m1, hes, by rw [mergeEntries_eq_foldlM]; exact hpre, he, hc, hl⟩

/-! ### 3. Contrapositive: a stack that merges never wrote to the constant -/

theorem stack_ok_no_later_write (b r : Mapping) (ms : List Mapping) (k0 : Key) (old : Value)
    (hk : k0 ∈ b.ck) (hl : lookup k0 b.es = some old) (h : mergeLayers b ms = .ok r) :
    (∀ w ∈ ms, ∀ k v, (k, v) ∈ w.es → k.stripPrefix.1 ≠ k0) ∧
      k0 ∈ r.ck ∧ lookup k0 r.es = some old := by
  refine ⟨?_, stack_const_persists b r ms k0 old hk hl h⟩
  intro w hw k v hmem hs
  obtain ⟨mid, post, rfl⟩ := List.append_of_mem hw
  obtain ⟨k', he⟩ := stack_const_then_write_fails b w mid post k k0 v old hk hl hmem hs
  rw [he] at h
  cases h

/-! ### 4. Constant markings are only ever a veto -/

def eraseCk (m : Mapping) : Mapping := { m with ck := [] }

def SameData (a b : Mapping) : Prop := a.es = b.es ∧ a.ok = b.ok

/-- One successful insert with whatever constant flags and forcing, replayed on a mapping with
the same data whose constant set is arbitrary *but does not contain the key*: same data. -/
theorem insertImpl_data_indep {m n m' : Mapping} (k : Key) (v : Value) (fc fc' fo : Bool)
    (hd : SameData m n) (hnk : k.stripPrefix.1 ∉ n.ck) (h : m.insertImpl k v fc fo = .ok m') :
    ∃ n', n.insertImpl k v fc' fo = .ok n' ∧ SameData m' n' := by
  obtain ⟨hes, hok⟩ := hd
  rcases insertImpl_ok_cases h with hl | ⟨⟨old, hl⟩, hc⟩
  · rw [insertImpl_absent v fc fo hl] at h; cases h
    rw [hes] at hl
    exact ⟨_, insertImpl_absent v fc' fo hl, by rw [hes], by rw [hok]⟩
  · rw [insertImpl_present v fc fo hl hc] at h; cases h
    rw [hes] at hl
    exact ⟨_, insertImpl_present v fc' fo hl hnk, by rw [hes], hok⟩

theorem insertImpl_same_data {m n m' : Mapping} (k : Key) (v : Value) (fc fo : Bool)
    (hd : SameData m n) (hn : n.ck = []) (h : m.insertImpl k v fc fo = .ok m') :
    ∃ n', n.insertImpl k v false fo = .ok n' ∧ SameData m' n' ∧
      (k.stripPrefix.2 ≠ some .const → n'.ck = []) := by
  obtain ⟨n', hn', hd'⟩ := insertImpl_data_indep k v fc false fo hd (by rw [hn]; simp) h
  refine ⟨n', hn', hd', fun hp => List.eq_nil_iff_forall_not_mem.2 fun x hx => ?_⟩
  rcases (insertImpl_mem_ck hn' x).1 hx with hx | ⟨-, hc | hc⟩
  · rw [hn] at hx; cases hx
  · exact hp hc
  · cases hc

/-- **Constant markings never change merged data.**  If `m.merge other` succeeds, then merging
the same entries, with the layer's constant flags erased, into a mapping with the same data and
*no* constant flags succeeds with the same entries and override set.  Stated for layers none of
whose keys carries the `=` marker (`hclean`): stored layers, which is what the class walk
merges. -/
theorem const_flags_only_reject (m n other m' : Mapping)
    (hd : SameData m n) (hn : n.ck = [])
    (hclean : ∀ k v, (k, v) ∈ other.es → k.stripPrefix.2 ≠ some .const)
    (h : m.merge other = .ok m') :
    ∃ n', n.merge { other with ck := [] } = .ok n' ∧ SameData m' n' ∧ n'.ck = [] := by
  rw [merge_eq] at h
  show ∃ n', n.mergeEntries [] other.ok other.es = .ok n' ∧ _
  revert h hd hn
  generalize other.es = es at hclean
  induction es generalizing m n with
  | nil =>
    intro hd hn h
    cases h
    exact ⟨n, rfl, hd, hn⟩
  | cons e es ih =>
    obtain ⟨k, v⟩ := e
    intro hd hn h
    rw [mergeEntries_cons] at h ⊢
    cases h1 : m.insertImpl k v (decide (k ∈ other.ck)) (decide (k ∈ other.ok)) with
    | error e => simp [h1] at h
    | ok m1 =>
      simp only [h1] at h
      obtain ⟨n1, hn1, hd1, hck1⟩ := insertImpl_same_data k v _ _ hd hn h1
      have hd0 : decide (k ∈ ([] : List Key)) = false := by simp
      rw [hd0, hn1]
      exact ih m1 n1 (fun k' v' hm => hclean k' v' (List.mem_cons_of_mem _ hm)) hd1
        (hck1 (hclean k v (List.mem_cons_self ..))) h

/-! ### 5. Nested mappings: the layer-list fold is the same fold -/

theorem mergeV_map_map (a c : Mapping) (st : RState) :
    mergeV a.toValue c.toValue st =
      match a.merge c with
      | .error e => .error e
      | .ok m => .ok m.toValue := rfl

theorem mergeV_null_map (c : Mapping) (st : RState) : mergeV .null c.toValue st = .ok c.toValue := rfl

/-- `Value::flattened` of a layer list that holds mappings only, from a mapping: the fold of
`Mapping::merge`. -/
theorem flatVl_maps (b : Mapping) (ms : List Mapping) (st : RState) :
    flatVl (ms.map Mapping.toValue) b.toValue st =
      match mergeLayers b ms with
      | .error e => .error e
      | .ok r => .ok r.toValue := by
  induction ms generalizing b with
  | nil => rfl
  | cons m ms ih =>
    simp only [List.map_cons, flatVl, mergeV_map_map, mergeLayers_cons]
    cases h : b.merge m with
    | error e => rfl
    | ok b' => exact ih b'

/-- … and from the empty accumulator (`null`), as `Value::flattened` starts. -/
theorem flatVl_maps_null (m : Mapping) (ms : List Mapping) (st : RState) :
    flatVl ((m :: ms).map Mapping.toValue) .null st =
      match mergeLayers m ms with
      | .error e => .error e
      | .ok r => .ok r.toValue := by
  simp only [List.map_cons, flatVl, mergeV_null_map]
  exact flatVl_maps m ms st

/-- Nested mappings: the first layer `c` holds `k0` as a constant; a later mapping layer `w`
writes a key stripping to `k0`: rendering the layer list fails with a constant-key error
whatever mapping layers lie between and after. -/
theorem nested_const_then_write_fails (c w : Mapping) (mid post : List Mapping)
    (k k0 : Key) (v old : Value) (st : RState)
    (hk : k0 ∈ c.ck) (hl : lookup k0 c.es = some old)
    (hmem : (k, v) ∈ w.es) (hs : k.stripPrefix.1 = k0) :
    ∃ k', flatVl ((c :: (mid ++ w :: post)).map Mapping.toValue) .null st = .error (.constKey k') := by
  obtain ⟨k', he⟩ := stack_const_then_write_fails c w mid post k k0 v old hk hl hmem hs
  exact ⟨k', by rw [flatVl_maps_null, he]⟩

/-- If the nested layer list renders, the constant is in the result with its value. -/
theorem nested_ok_const_untouched (c : Mapping) (ms : List Mapping) (k0 : Key) (old r : Value)
    (st : RState) (hk : k0 ∈ c.ck) (hl : lookup k0 c.es = some old)
    (h : flatVl ((c :: ms).map Mapping.toValue) .null st = .ok r) :
    ∃ rm : Mapping, r = rm.toValue ∧ k0 ∈ rm.ck ∧ lookup k0 rm.es = some old ∧
      ∀ w ∈ ms, ∀ k v, (k, v) ∈ w.es → k.stripPrefix.1 ≠ k0 := by
  rw [flatVl_maps_null] at h
  cases h1 : mergeLayers c ms with
  | error e => simp [h1] at h
  | ok rm =>
    simp only [h1] at h
    cases h
    obtain ⟨a, b, d⟩ := stack_ok_no_later_write c rm ms k0 old hk hl h1
    exact ⟨rm, rfl, b, d, a⟩

/-- Layers are folded left to right: an error among the first layers is the result, whatever follows. -/
theorem flatVl_append (a b : List Value) (base : Value) (st : RState) :
    flatVl (a ++ b) base st =
      match flatVl a base st with
      | .error e => .error e
      | .ok r => flatVl b r st := by
  simp only [flatVl_eq_foldlM, List.foldlM_append]
  cases a.foldlM (fun b v => mergeV b v st) base <;> rfl

/-- A `null` layer replaces the enclosing mapping as a whole and thereby lifts the protection:
whatever was constant before it, the layers after it start afresh. -/
theorem nested_null_layer_lifts (before after : List Value) (acc b : Value) (st : RState)
    (h : flatVl before acc st = .ok b) :
    flatVl (before ++ .null :: after) acc st = flatVl after .null st := by
  rw [flatVl_append, h]
  simp only [flatVl, mergeV]

/-- **A later reset does not hide an earlier violation.**  The protection is lifted for the layers
*after* a `null` layer, not retroactively: if a layer wrote to a constant before the enclosing
mapping was reset to `null`, rendering the layer list still fails with the constant-key error,
whatever layers (resets included) follow. -/
theorem nested_violation_not_hidden_by_later_reset (c w : Mapping) (mid : List Mapping)
    (later : List Value) (k k0 : Key) (v old : Value) (st : RState)
    (hk : k0 ∈ c.ck) (hl : lookup k0 c.es = some old)
    (hmem : (k, v) ∈ w.es) (hs : k.stripPrefix.1 = k0) :
    ∃ k', flatVl ((c :: (mid ++ [w])).map Mapping.toValue ++ .null :: later) .null st =
      .error (.constKey k') := by
  obtain ⟨k', he⟩ := nested_const_then_write_fails c w mid [] k k0 v old st hk hl hmem hs
  refine ⟨k', ?_⟩
  rw [flatVl_append, he]


/-! ### Non-vacuity -/

private def kA : Key := .str "a".toList
private def kB : Key := .str "b".toList
private def one : Value := .num (.int 1)
private def two : Value := .num (.int 2)
/-- `{=a: 1}` as stored. -/
private def cA : Mapping := { es := [(kA, one)], ck := [kA] }
/-- `{b: 2}`. -/
private def lB : Mapping := { es := [(kB, two)] }
/-- `{a: 2}` / `{~a: 2}` as stored. -/
private def wA : Mapping := { es := [(kA, two)] }
private def wAo : Mapping := { es := [(kA, two)], ok := [kA] }

example : mergeLayers {} [cA, lB, wA] = .error (.constKey kA) := by decide +kernel
example : mergeLayers {} [cA, lB, wAo] = .error (.constKey kA) := by decide +kernel
example : ∃ r, mergeLayers {} [cA, lB, lB] = .ok r ∧ lookup kA r.es = some one ∧ kA ∈ r.ck :=
  ⟨{ es := [(kA, one), (kB, .vl [two, two])], ck := [kA] }, by decide +kernel⟩
example (st : RState) :
    flatVl [cA.toValue, lB.toValue, wA.toValue] .null st = .error (.constKey kA) := rfl
example (st : RState) :
    flatVl [cA.toValue, .null, wA.toValue] .null st = .ok wA.toValue := rfl
example (st : RState) :
    flatVl [cA.toValue, wA.toValue, .null, lB.toValue] .null st = .error (.constKey kA) := rfl
/-- layers before the constant definition merge normally -/
example : ∃ r, mergeLayers {} [wA, cA] = .ok r ∧ kA ∈ r.ck :=
  ⟨{ es := [(kA, .vl [two, one])], ck := [kA] }, by decide +kernel⟩

end C09d
end Reclass
