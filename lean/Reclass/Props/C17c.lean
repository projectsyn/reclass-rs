/-
  C17c — the application list refines a per-name saturating counter.

  For every name `n` the state of a `RemovableList` is one of: present (`1`), pending
  negation (`-1`), neither (`0`).  A plain entry `n` adds one, an entry `~n` subtracts one,
  every other entry leaves `n` alone, and the result is clamped to `[-1, 1]`.  The theorems
  below show that `RList.appendIfNew / handleNegation / ofList / merge`
  (`src/list/removable.rs`) implement exactly this specification, for every list that
  satisfies the C17 invariant, every entry and every name — so membership of the final
  application list is decided by `run`, a fold over the entries that mentions no list at all.
-/
import Reclass.Props.C17
namespace Reclass
namespace C17c
open C17

def st (l : RList) (n : Str) : Int :=
  if n ∈ l.items then 1 else if n ∈ l.negs then -1 else 0

def delta (e n : Str) : Int :=
  match e with
  | '~' :: m => if m = n then -1 else 0
  | _ => if e = n then 1 else 0

def clamp (i : Int) : Int := max (-1) (min 1 i)

/-- The specification: a fold over the entries, no list involved. -/
def run (c : Int) (es : List Str) (n : Str) : Int :=
  es.foldl (fun c e => clamp (c + delta e n)) c

theorem st_range (l : RList) (n : Str) : st l n = 1 ∨ st l n = -1 ∨ st l n = 0 := by
  unfold st
  by_cases a : n ∈ l.items <;> by_cases b : n ∈ l.negs <;> simp [a, b]

theorem st_handleNegation (l : RList) (m n : Str) (h : Inv l) :
    st (l.handleNegation m) n = clamp (st l n + (if m = n then -1 else 0)) := by
  have hd := h.2.2 n
  simp only [st, mem_handleNegation_items h.1, mem_handleNegation_negs, ne_eq, eq_comm (a := n)]
  by_cases e : m = n
  · subst e
    by_cases a : m ∈ l.items <;> by_cases b : m ∈ l.negs <;> simp_all <;> rfl
  · by_cases a : n ∈ l.items <;> by_cases b : n ∈ l.negs <;> simp_all <;> rfl

theorem st_swap {l : RList} (h : Inv l) (n : Str) : st l.swap n = - st l n := by
  have := h.2.2 n
  unfold st RList.swap
  by_cases a : n ∈ l.items <;> by_cases b : n ∈ l.negs <;> simp_all

theorem delta_plain {e : Str} (he : ∀ m, e ≠ '~' :: m) (n : Str) : delta e n = if e = n then 1 else 0 := by
  unfold delta
  split
  · exact absurd rfl (he _)
  · rfl

/-- One entry moves the counter of every name by `delta`, clamped. -/
theorem st_appendIfNew (l : RList) (e n : Str) (h : Inv l) :
    st (l.appendIfNew e) n = clamp (st l n + delta e n) := by
  by_cases he : ∃ m, e = '~' :: m
  · obtain ⟨m, rfl⟩ := he
    exact st_handleNegation l m n h
  · have he : ∀ m, e ≠ '~' :: m := fun m q => he ⟨m, q⟩
    -- a plain entry is a negation on the swapped list, and swapping negates the counter
    rw [l.appendIfNew_plain he, st_swap (handleNegation_inv _ _ (inv_swap h)),
      st_handleNegation _ _ _ (inv_swap h), st_swap h, delta_plain he]
    rcases st_range l n with r | r | r <;> rw [r] <;> split <;> rfl

/-- Any sequence of entries: the list's state for `n` is the specification's. -/
theorem st_foldl (es : List Str) (l : RList) (h : Inv l) (n : Str) :
    st (es.foldl RList.appendIfNew l) n = run (st l n) es n := by
  induction es generalizing l with
  | nil => rfl
  | cons e es ih =>
    simp only [List.foldl_cons, run]
    rw [ih _ (appendIfNew_inv l e h), st_appendIfNew l e n h]; rfl

theorem st_empty (n : Str) : st {} n = 0 := by simp [st]

theorem st_ofList (es : List Str) (n : Str) : st (RList.ofList es) n = run 0 es n := by
  unfold RList.ofList; rw [st_foldl es {} inv_empty n, st_empty]

/-- Membership of the final list is decided by the specification alone. -/
theorem mem_ofList_iff (es : List Str) (n : Str) :
    n ∈ (RList.ofList es).items ↔ run 0 es n = 1 := by
  rw [← st_ofList]
  unfold st
  by_cases a : n ∈ (RList.ofList es).items <;> by_cases b : n ∈ (RList.ofList es).negs <;> simp [a, b]

/-- Pending negations of the final list are decided by the specification as well. -/
theorem mem_negs_ofList_iff (es : List Str) (n : Str) :
    n ∈ (RList.ofList es).negs ↔ run 0 es n = -1 := by
  rw [← st_ofList]
  have := (ofList_inv es).2.2 n
  unfold st
  by_cases a : n ∈ (RList.ofList es).items <;> by_cases b : n ∈ (RList.ofList es).negs <;> simp_all

theorem run_range (es : List Str) (n : Str) :
    run 0 es n = 1 ∨ run 0 es n = -1 ∨ run 0 es n = 0 := by
  rw [← st_ofList]; exact st_range _ n

theorem foldl_handleNegation_eq (ns : List Str) (l : RList) :
    ns.foldl RList.handleNegation l = (ns.map ('~' :: ·)).foldl RList.appendIfNew l := by
  induction ns generalizing l with
  | nil => rfl
  | cons m ms ih => simp only [List.foldl_cons, List.map_cons]; rw [ih]; rfl

/-- Merging another list replays its pending negations, then its items. -/
theorem st_merge (l o : RList) (h : Inv l) (n : Str) :
    st (l.merge o) n = run (st l n) (o.negs.map ('~' :: ·) ++ o.items) n := by
  unfold RList.merge
  rw [foldl_handleNegation_eq, ← List.foldl_append]
  exact st_foldl _ l h n

theorem clamp_range (i : Int) : clamp i = 1 ∨ clamp i = -1 ∨ clamp i = 0 := by
  unfold clamp; omega

/-- The state of `n` depends only on the entries that mention `n`, in their order: every other
entry can be dropped (or inserted anywhere) without changing it. -/
theorem run_filter (c : Int) (es : List Str) (n : Str) (hc : c = 1 ∨ c = -1 ∨ c = 0) :
    run c es n = run c (es.filter (fun e => delta e n != 0)) n := by
  induction es generalizing c with
  | nil => rfl
  | cons e es ih =>
    by_cases h0 : delta e n = 0
    · have hcl : clamp (c + delta e n) = c := by
        rw [h0]; rcases hc with r | r | r <;> (simp [r, clamp] <;> omega)
      have hf : (e :: es).filter (fun e => delta e n != 0) = es.filter (fun e => delta e n != 0) := by
        simp [h0]
      rw [hf, ← ih c hc]
      simp only [run, List.foldl_cons]; rw [hcl]
    · have hf : (e :: es).filter (fun e => delta e n != 0) =
          e :: es.filter (fun e => delta e n != 0) := by
        simp [h0]
      rw [hf]
      simp only [run, List.foldl_cons]
      exact ih _ (clamp_range _)

/-- Entries that do not mention `n` leave it alone. -/
theorem run_unmentioned (c : Int) (es : List Str) (n : Str) (hc : c = 1 ∨ c = -1 ∨ c = 0)
    (h : ∀ e ∈ es, delta e n = 0) : run c es n = c := by
  rw [run_filter c es n hc, List.filter_eq_nil_iff.2 fun e he => by simp [h e he]]; rfl

example : run 0 ["~b".toList, "b".toList, "b".toList] "b".toList = 1 := by decide
example : run 0 ["b".toList, "~b".toList, "~b".toList, "b".toList] "b".toList = 0 := by decide
example : "a".toList ∈ (RList.ofList ["a".toList, "~b".toList]).items := by decide

end C17c
end Reclass
