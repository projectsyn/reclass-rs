/-
  C06 — Reference markers, escapes and malformed references.  All statements are about the model
  of `src/refs/parser.rs` / `Token::parse` in `Model/Parser.lean`, for every string
  (`Str = List Char`), with no bound on its length.
  Two facts about the grammar that the statements reflect (both agree with the Rust unit tests,
  neither is a defect of the model):
  * `\\}` stands for `\}` only at the start of an item (start of string or right after an
    escape); in the middle of a `content` run it is copied unchanged — see `unescapeFrom`;
  * a backslash before `\${` un-escapes it again (`\\${a}` = literal `\` then the reference
    `a`), so "escaped" means: preceded by a backslash that is not itself preceded by one.
-/
import Reclass.Lemmas.ParserL
import Reclass.Lemmas.DecEq
import Reclass.Model.Eval
namespace Reclass
namespace C06

/-! ### 1. Strings without a marker -/

/-- A string with neither `${` nor `$[` in it is not parsed at all: `Token::parse` answers
`Ok(None)` (and the evaluator then keeps the text as it is, see
`no_marker_renders_unchanged`). -/
theorem no_marker_parse_none (s : Str) (h : containsMarker s = false) :
    Token.parse s = .ok none := by
  simp [Token.parse, h]

/-- `containsMarker` is exactly "`${` or `$[` occurs somewhere". -/
theorem containsMarker_iff (s : Str) :
    containsMarker s = true ↔
      ∃ pre post, s = pre ++ '$' :: '{' :: post ∨ s = pre ++ '$' :: '[' :: post :=
  Reclass.containsMarker_iff s

/-- Interpolating a string value without a marker returns the very same text as a literal,
whatever the parameters and the resolution state, and leaves the state alone. -/
theorem no_marker_renders_unchanged (n : Nat) (root : Mapping) (s : Str) (st : RState)
    (h : containsMarker s = false) :
    interp (n + 1) root (.str s) st = .ok (.lit s, st) := by
  simp [interp, no_marker_parse_none s h]

/-! ### 2. Progress: every successful sub-parser consumes input -/

/-- The generic character loop never produces input: what is left is a suffix. -/
theorem scan_consumes (step : Str → Option (Str × Nat)) (k : Nat) (i : Str) :
    (scan step k i).2 <:+ i ∧ (scan step k i).2.length ≤ i.length :=
  ⟨scan_suffix step i k, scan_length_le step i k⟩

/-- A successful `string` (escape or run of content) consumes at least one character and
yields non-empty text. -/
theorem stringP_consumes {i s rest : Str} (h : stringP i = some (s, rest)) :
    rest <:+ i ∧ rest.length < i.length ∧ s ≠ [] := stringP_suffix h

/-- A successful `reference` leaves a proper suffix of its input. -/
theorem reference_consumes {n : Nat} {i rest : Str} {t : Token}
    (h : reference n i = .ok (t, rest)) : rest <:+ i ∧ rest.length < i.length :=
  Reclass.reference_consumes h

/-- The `ref_item` loop leaves a suffix, a proper one as soon as it produced a token. -/
theorem refItems_consumes {n : Nat} {i rest : Str} {ts : List Token}
    (h : refItems n i = .ok (ts, rest)) :
    rest <:+ i ∧ rest.length ≤ i.length ∧ (ts ≠ [] → rest.length < i.length) :=
  have ⟨hs, hl⟩ := Reclass.refItems_consumes h
  ⟨hs, hs.length_le, hl⟩

/-- The top-level `item` loop leaves a suffix, a proper one as soon as it produced a token. -/
theorem items_consumes {n : Nat} {i rest : Str} {ts : List Token}
    (h : items n i = .ok (ts, rest)) :
    rest <:+ i ∧ rest.length ≤ i.length ∧ (ts ≠ [] → rest.length < i.length) :=
  have ⟨hs, hl⟩ := Reclass.items_consumes h
  ⟨hs, hs.length_le, hl⟩

/-! ### 3. Fuel: monotone, and `parseFuel` is always enough -/

/-- Fuel monotonicity for all four fuel-indexed parser functions: a result other than "out
of fuel" is unchanged by one more unit of fuel. -/
theorem fuel_mono (n : Nat) (i : Str) :
    (reference n i ≠ .error .fuel → reference (n + 1) i = reference n i) ∧
    (refItems n i ≠ .error .fuel → refItems (n + 1) i = refItems n i) ∧
    (items n i ≠ .error .fuel → items (n + 1) i = items n i) ∧
    (parseRefF n i ≠ .error .fuel → parseRefF (n + 1) i = parseRefF n i) :=
  ⟨reference_mono, refItems_mono, items_mono, fun h => parseRefF_mono_le h (Nat.le_succ n)⟩

/-- … and hence by any amount of additional fuel. -/
theorem parseRefF_mono {n m : Nat} {s : Str} (h : parseRefF n s ≠ .error .fuel) (hle : n ≤ m) :
    parseRefF m s = parseRefF n s := parseRefF_mono_le h hle

/-- `length + 2` units of fuel already suffice (each loop iteration consumes a character,
each nesting level two), so the model's `parseFuel s = 2 * length + 3` is never exhausted. -/
theorem parse_fuel_enough (s : Str) : parseRefF (parseFuel s) s ≠ .error .fuel :=
  parseRefF_fuel_enough (by unfold parseFuel; omega)

/-- `Token.parse` never reports the model-only fuel error. -/
theorem parse_ne_fuel (s : Str) : Token.parse s ≠ .error .fuel := by
  cases hm : containsMarker s with
  | false => rw [no_marker_parse_none s hm]; exact fun h => nomatch h
  | true =>
    rw [Token.parse_eq_map hm (parse_fuel_enough s)]
    cases parseRefF (parseFuel s) s <;> exact fun h => nomatch h

/-- The result of `Token.parse` is the result of the grammar at *any* sufficient fuel. -/
theorem parse_eq_of_fuel {s : Str} {n : Nat} (hm : containsMarker s = true)
    (h : parseRefF n s ≠ .error .fuel) :
    Token.parse s = match parseRefF n s with
      | .ok t => .ok (some t)
      | .error _ => .error (.parse s) := by
  rw [Token.parse_eq_map hm h]
  cases parseRefF n s <;> rfl

/-! ### 4. Shape of a successful parse -/

/-- `Sub t u`: the token `t` occurs somewhere inside `u` (reflexive–transitive). -/
inductive Sub : Token → Token → Prop where
  | refl (t : Token) : Sub t t
  | inRef {t u : Token} {ps : List Token} : u ∈ ps → Sub t u → Sub t (.ref ps)
  | inCombined {t u : Token} {ps : List Token} : u ∈ ps → Sub t u → Sub t (.combined ps)

/-- Members of a list of well-formed inner tokens are well-formed. -/
theorem wfInner_of_mem {ps : List Token} (h : Token.wfInnerL ps = true) {u : Token}
    (hu : u ∈ ps) : u.wfInner = true := by
  induction ps with
  | nil => cases hu
  | cons a r ih =>
    simp only [Token.wfInnerL, Bool.and_eq_true] at h
    rcases List.mem_cons.1 hu with rfl | hm
    · exact h.1
    · exact ih h.2 hm

/-- Well-formedness is inherited by sub-tokens. -/
theorem sub_wfInner {t u : Token} (hs : Sub t u) (hu : u.wfInner = true) : t.wfInner = true := by
  induction hs with
  | refl => exact hu
  | inRef hm _ ih =>
    simp only [Token.wfInner, Bool.and_eq_true] at hu
    exact ih (wfInner_of_mem hu.2 hm)
  | inCombined _ _ _ => simp [Token.wfInner] at hu

theorem sub_wfInner_or_eq {t u : Token} (hs : Sub u t) (hw : t.wfTop = true) :
    u.wfInner = true ∨ u = t := by
  cases hs with
  | refl => exact Or.inr rfl
  | inRef hm hs' =>
    simp only [Token.wfTop, Token.wfInner, Bool.and_eq_true] at hw
    exact Or.inl (sub_wfInner hs' (wfInner_of_mem hw.2 hm))
  | inCombined hm hs' =>
    simp only [Token.wfTop, Bool.and_eq_true] at hw
    exact Or.inl (sub_wfInner hs' (wfInner_of_mem hw.2 hm))

theorem sub_wfTop {t u : Token} (hs : Sub u t) (hw : t.wfTop = true) : u.wfTop = true :=
  (sub_wfInner_or_eq hs hw).elim wfTop_of_wfInner (fun he => he ▸ hw)

/-- Every proper or improper sub-token of a parse result is well-formed (`Token.wfInner`:
non-empty literal, or reference with non-empty coalesced parts), except that the result
itself may be a `combined`. -/
theorem sub_wf {n : Nat} {s : Str} {t u : Token} (h : parseRefF n s = .ok t) (hs : Sub u t) :
    u.wfInner = true ∨ u = t := sub_wfInner_or_eq hs (parseRefF_wf h)

/-- **No empty reference is ever produced**: every `Token.ref parts` occurring anywhere
inside a parse result has `parts ≠ []`. -/
theorem ref_nonempty {n : Nat} {s : Str} {t : Token} (h : parseRefF n s = .ok t)
    {parts : List Token} (hs : Sub (.ref parts) t) : parts ≠ [] := by
  have hw := sub_wfTop hs (parseRefF_wf h)
  rintro rfl
  simp [Token.wfTop, Token.wfInner] at hw

/-- Every literal occurring anywhere inside a parse result is non-empty. -/
theorem lit_nonempty {n : Nat} {s : Str} {t : Token} (h : parseRefF n s = .ok t)
    {a : Str} (hs : Sub (.lit a) t) : a ≠ [] := by
  have hw := sub_wfTop hs (parseRefF_wf h)
  rintro rfl
  simp [Token.wfTop, Token.wfInner] at hw

/-- The full shape invariant of a parse result (see `Token.wfTop`): `combined` only at the
top with at least two parts, reference parts non-empty, literals non-empty, and never two
adjacent literals. -/
theorem parse_wf {n : Nat} {s : Str} {t : Token} (h : parseRefF n s = .ok t) :
    t.wfTop = true := parseRefF_wf h

/-- `all_consuming`: a successful parse means the item loop ate the whole input and produced
at least one token — nothing is silently left over (`parse_ref`'s `unreachable!("Trailing
data")` is indeed unreachable). -/
theorem parse_consumes_all {n : Nat} {s : Str} {t : Token} (h : parseRefF n s = .ok t) :
    ∃ ts, items n s = .ok (ts, []) ∧ ts ≠ [] := by
  obtain ⟨ts, h1, h2, _⟩ := parseRefF_ok_inv h
  exact ⟨ts, h1, h2⟩

/-- `coalesce_literals` keeps a non-empty list non-empty (so `tokiter.next().unwrap()` on
its result is fine). -/
theorem coalesce_nonempty {ts : List Token} (h : ts ≠ []) : coalesce ts ≠ [] :=
  fun h0 => h (coalesce_eq_nil h0)

/-- `coalesce_literals` never leaves two adjacent literals. -/
theorem coalesce_no_adjacent_lits (ts : List Token) : noAdjLit (coalesce ts) = true :=
  noAdjLit_coalesce ts

/-- … and does nothing if there were none to begin with. -/
theorem coalesce_id_of_no_adjacent_lits (ts : List Token) (h : noAdjLit ts = true) :
    coalesce ts = ts := coalesce_of_noAdjLit ts h

/-! ### 5. Malformed references are errors -/

/-- **Unclosed reference**: ordinary text (no `$`, no `\`; in particular any text free of
`$ \ { }`), then `${`, then anything without a `}`: `Token::parse` reports a parse error
for the whole string — the `${…` is neither passed through as text nor split off. -/
theorem unclosed_is_error (pre post : Str) (hpre : ∀ c ∈ pre, c ≠ '$' ∧ c ≠ '\\')
    (hpost : '}' ∉ post) :
    Token.parse (pre ++ '$' :: '{' :: post) = .error (.parse (pre ++ '$' :: '{' :: post)) :=
  parse_stuck_open hpre (fun _ _ _ h => hpost (reference_needs_close h))

/-- **Empty reference**: ordinary text, then `${}`, then *anything*: parse error. -/
theorem empty_ref_is_error (pre post : Str) (hpre : ∀ c ∈ pre, c ≠ '$' ∧ c ≠ '\\') :
    Token.parse (pre ++ '$' :: '{' :: '}' :: post) =
      .error (.parse (pre ++ '$' :: '{' :: '}' :: post)) :=
  parse_stuck_open hpre (fun _ _ _ => reference_empty_fails)

/-- The same in the exact form `pre ++ "${}" ++ post`. -/
theorem empty_ref_is_error' (pre post : Str) (hpre : ∀ c ∈ pre, c ≠ '$' ∧ c ≠ '\\') :
    Token.parse (pre ++ "${}".toList ++ post) = .error (.parse (pre ++ "${}".toList ++ post)) := by
  have := empty_ref_is_error pre post hpre
  simpa using this

/-- In the evaluator a malformed reference surfaces as that parse error, whatever the
parameters. -/
theorem unclosed_interp_error (n : Nat) (root : Mapping) (st : RState) (pre post : Str)
    (hpre : ∀ c ∈ pre, c ≠ '$' ∧ c ≠ '\\') (hpost : '}' ∉ post) :
    interp (n + 1) root (.str (pre ++ '$' :: '{' :: post)) st =
      .error (.parse (pre ++ '$' :: '{' :: post)) := by
  simp [interp, unclosed_is_error pre post hpre hpost]

/-! ### 6. A closed reference around a non-empty path is accepted -/

def litOpt (s : Str) : List Token := if s = [] then [] else [.lit s]

/-- **Simple reference**: `pre${path}post` with `pre`, `post` free of `$` and `\`, and a
non-empty `path` free of `$`, `\`, `}` (so in particular whenever none of the three contains
any of `$ \ { }`) is accepted, as `Ref [Literal path]` alone when `pre = post = ""` and
otherwise as `Combined` of the non-empty literals around that reference (`pack`). -/
theorem simple_ref_accepted (pre path post : Str)
    (hpre : ∀ c ∈ pre, c ≠ '$' ∧ c ≠ '\\')
    (hpath : ∀ c ∈ path, c ≠ '$' ∧ c ≠ '\\' ∧ c ≠ '}') (hne : path ≠ [])
    (hpost : ∀ c ∈ post, c ≠ '$' ∧ c ≠ '\\') :
    Token.parse (pre ++ '$' :: '{' :: (path ++ '}' :: post)) =
      .ok (some (pack (litOpt pre ++ [.ref [.lit path]] ++ litOpt post))) := by
  have h : Parses (pre ++ '$' :: '{' :: (path ++ '}' :: post))
      (litOpt pre ++ .ref [.lit path] :: litOpt post) [] :=
    .optLit hpre (contentStep_open _) (.ref (reference_simple (n := 0) hne hpath) (.tail hpost))
  have hna : noAdjLit (litOpt pre ++ .ref [.lit path] :: litOpt post) = true := by
    by_cases h1 : pre = [] <;> by_cases h2 : post = [] <;>
      simp [litOpt, h1, h2, noAdjLit, headIsLit, Token.isLit]
  rw [h.parse (containsMarker_open pre _) (by simp), coalesce_of_noAdjLit _ hna,
    List.append_assoc]
  rfl

/-- The bare reference `${path}` parses to `Ref [Literal path]`. -/
theorem bare_ref_accepted (path : Str)
    (hpath : ∀ c ∈ path, c ≠ '$' ∧ c ≠ '\\' ∧ c ≠ '}') (hne : path ≠ []) :
    Token.parse ('$' :: '{' :: (path ++ ['}'])) = .ok (some (.ref [.lit path])) := by
  have := simple_ref_accepted [] path [] (by simp) hpath hne (by simp)
  simpa [litOpt, pack] using this

/-- With text on both sides the result is `Combined [Literal pre, Ref [Literal path],
Literal post]`. -/
theorem embedded_ref_accepted (pre path post : Str)
    (hpre : ∀ c ∈ pre, c ≠ '$' ∧ c ≠ '\\') (hpre' : pre ≠ [])
    (hpath : ∀ c ∈ path, c ≠ '$' ∧ c ≠ '\\' ∧ c ≠ '}') (hne : path ≠ [])
    (hpost : ∀ c ∈ post, c ≠ '$' ∧ c ≠ '\\') (hpost' : post ≠ []) :
    Token.parse (pre ++ '$' :: '{' :: (path ++ '}' :: post)) =
      .ok (some (.combined [.lit pre, .ref [.lit path], .lit post])) := by
  have := simple_ref_accepted pre path post hpre hpath hne hpost
  simpa [litOpt, pack, hpre', hpost'] using this

/-! ### 7. Escaped markers are literal text -/

/-- On the *reversed* text before a position: the character just before is a backslash and
the one before that (if any) is not. -/
def escTail (rp : Str) : Bool := rp.head? == some '\\' && rp.tail.head? != some '\\'

/-- Is a `${` placed right after `pre` escaped, i.e. does `pre` end in a backslash that is
not itself preceded by a backslash? -/
def escapedBy (pre : Str) : Bool := escTail pre.reverse

/-- Position `i` of `s` is an *unescaped* reference opening: `${` starts there and it is not
the case that (char `i-1` is `\` and (`i < 2` or char `i-2` is not `\`)). -/
def unescapedOpenAt (s : Str) (i : Nat) : Bool :=
  startsWith (s.drop i) ['$', '{'] && !escapedBy (s.take i)

/-- What the grammar makes of a string all of whose `${` are escaped: a left-to-right scan,
"at item start" (`true`) initially and after each escape.
* `\${` ↦ `${` and `\$[` ↦ `$[` (anywhere), back to item start;
* only at item start, `\\}` ↦ `\}` (the `double_escape` alternative of `string` fires only
  as the first thing of an item; in the middle of a `content` run `\\}` is copied as is);
* every other character is copied and leaves item-start mode.
(`\\${` never occurs in such strings: its `${` would be unescaped.) -/
def unescapeFrom : Bool → Str → Str
  | _, [] => []
  | _, '\\' :: '$' :: '{' :: r => '$' :: '{' :: unescapeFrom true r
  | _, '\\' :: '$' :: '[' :: r => '$' :: '[' :: unescapeFrom true r
  | true, '\\' :: '\\' :: '}' :: r => '\\' :: '}' :: unescapeFrom false r
  | _, c :: r => c :: unescapeFrom false r

/-- `unescapeFrom` started at item start: the text a string with only escaped markers stands for. -/
def unescape (s : Str) : Str := unescapeFrom true s

/-- `\${` ↦ `${` in either mode. -/
theorem unescapeFrom_refEsc (b : Bool) (r : Str) :
    unescapeFrom b ('\\' :: '$' :: '{' :: r) = '$' :: '{' :: unescapeFrom true r := by
  cases b <;> simp [unescapeFrom]

/-- `\$[` ↦ `$[` in either mode. -/
theorem unescapeFrom_invEsc (b : Bool) (r : Str) :
    unescapeFrom b ('\\' :: '$' :: '[' :: r) = '$' :: '[' :: unescapeFrom true r := by
  cases b <;> simp [unescapeFrom]

/-- `\\}` ↦ `\}` at item start. -/
theorem unescapeFrom_dbl (r : Str) :
    unescapeFrom true ('\\' :: '\\' :: '}' :: r) = '\\' :: '}' :: unescapeFrom false r := by
  simp [unescapeFrom]

/-- Any character that starts none of the escapes is copied. -/
theorem unescapeFrom_copy (b : Bool) (c : Char) (r : Str)
    (h1 : startsWith (c :: r) ['\\', '$', '{'] = false)
    (h2 : startsWith (c :: r) ['\\', '$', '['] = false)
    (h3 : b = true → startsWith (c :: r) ['\\', '\\', '}'] = false) :
    unescapeFrom b (c :: r) = c :: unescapeFrom false r := by
  conv => lhs; unfold unescapeFrom
  split
  · rename_i heq; cases heq
  · rename_i heq; cases heq; simp [startsWith] at h1
  · rename_i heq; cases heq; simp [startsWith] at h2
  · rename_i heq; cases heq; simp [startsWith] at h3
  · rename_i heq; cases heq; rfl

/-- The running form of "no unescaped `${` from here on", given the reversed text before. -/
def escOk (rp : Str) : Str → Bool
  | [] => true
  | c :: cs => (!startsWith (c :: cs) ['$', '{'] || escTail rp) && escOk (c :: rp) cs

/-- The positional hypothesis implies the running one, from any split point. -/
theorem escOk_of_noOpen_aux : ∀ (suf pre : Str),
    (∀ i, unescapedOpenAt (pre ++ suf) i = false) → escOk pre.reverse suf = true
  | [], _, _ => rfl
  | c :: cs, pre, h => by
    have h0 := h pre.length
    simp only [unescapedOpenAt, List.drop_left, List.take_left, escapedBy] at h0
    have ih := escOk_of_noOpen_aux cs (pre ++ [c]) (by simpa using h)
    simp only [List.reverse_append, List.reverse_cons, List.reverse_nil, List.nil_append,
      List.singleton_append] at ih
    simp only [escOk, ih, Bool.and_true]
    cases hs : startsWith (c :: cs) ['$', '{'] with
    | false => rfl
    | true => rw [hs] at h0; simpa using h0

/-- No unescaped opening at any position ⇒ `escOk` from the start. -/
theorem escOk_of_noOpen {s : Str} (h : ∀ i, unescapedOpenAt s i = false) : escOk [] s = true :=
  escOk_of_noOpen_aux s [] h

/-- After text that does not escape, no `${` may start. -/
theorem escOk_not_open {rp i : Str} (h : escOk rp i = true) (hrp : escTail rp = false) :
    startsWith i ['$', '{'] = false := by
  cases i with
  | nil => rfl
  | cons c cs =>
    simp only [escOk, hrp, Bool.or_false, Bool.and_eq_true, Bool.not_eq_true'] at h
    exact h.1

/-- `escOk` moves along the string. -/
theorem escOk_tail {rp : Str} {c : Char} {cs : Str} (h : escOk rp (c :: cs) = true) :
    escOk (c :: rp) cs = true := by
  simp only [escOk, Bool.and_eq_true] at h
  exact h.2

/-- `\\${` cannot occur: its `${` would be unescaped. -/
theorem escOk_no_dbl {rp i : Str} (h : escOk rp i = true) :
    startsWith i ['\\', '\\', '$', '{'] = false := by
  cases hb : startsWith i ['\\', '\\', '$', '{'] with
  | false => rfl
  | true =>
    obtain ⟨r, hr⟩ := (startsWith_iff_prefix _ _).1 hb
    subst hr
    have h2 := escOk_tail (escOk_tail h)
    have := escOk_not_open h2 (by simp [escTail])
    simp [startsWith] at this

/-- In a string without unescaped `${`, the position after a character that did not start
`\${` is not a `${`. -/
theorem next_not_open {rp : Str} {c : Char} {r : Str} (h : escOk rp (c :: r) = true)
    (hc : startsWith (c :: r) ['\\', '$', '{'] = false) : startsWith r ['$', '{'] = false := by
  cases hb : startsWith r ['$', '{'] with
  | false => rfl
  | true =>
    have h1 := escOk_tail h
    obtain ⟨x, hx⟩ := (startsWith_iff_prefix _ _).1 hb
    subst hx
    simp only [List.cons_append, List.nil_append] at h1 hc
    simp only [escOk, Bool.and_eq_true, Bool.or_eq_true, Bool.not_eq_true'] at h1
    rcases h1.1 with h2 | h2
    · simp [startsWith] at h2
    · have : c = '\\' := by
        simp only [escTail, List.head?_cons, Bool.and_eq_true, beq_iff_eq, Option.some.injEq] at h2
        exact h2.1
      subst this
      simp [startsWith] at hc

/-- Where a `content` run may stop in such a string. -/
def StopAt (i : Str) : Prop :=
  i = [] ∨ startsWith i ['\\', '$', '{'] = true ∨ startsWith i ['\\', '$', '['] = true

/-- A stopping point is not a `${`. -/
theorem StopAt.not_open {i : Str} (h : StopAt i) : startsWith i ['$', '{'] = false := by
  rcases h with h | h | h
  · subst h; rfl
  · obtain ⟨r, hr⟩ := (startsWith_iff_prefix _ _).1 h; subst hr; rfl
  · obtain ⟨r, hr⟩ := (startsWith_iff_prefix _ _).1 h; subst hr; rfl

/-- At a stopping point the mode of `unescapeFrom` does not matter. -/
theorem StopAt.unescape_irrel {i : Str} (h : StopAt i) (b b' : Bool) :
    unescapeFrom b i = unescapeFrom b' i := by
  rcases h with h | h | h
  · subst h; cases b <;> cases b' <;> rfl
  · obtain ⟨r, hr⟩ := (startsWith_iff_prefix _ _).1 h; subst hr
    simp only [List.cons_append, List.nil_append]
    rw [unescapeFrom_refEsc, unescapeFrom_refEsc]
  · obtain ⟨r, hr⟩ := (startsWith_iff_prefix _ _).1 h; subst hr
    simp only [List.cons_append, List.nil_append]
    rw [unescapeFrom_invEsc, unescapeFrom_invEsc]

/-- Where `ref_not_open` fails in such a string, an escape starts. -/
theorem refNotOpen_false_stop {rp i : Str} (h : escOk rp i = true)
    (ho : startsWith i ['$', '{'] = false) (hn : refNotOpen i = false) : StopAt i := by
  have hd := escOk_no_dbl h
  simp only [refNotOpen, ho, hd, Bool.not_false, Bool.true_and, Bool.and_true] at hn
  cases h1 : startsWith i ['\\', '$', '{'] with
  | true => exact Or.inr (Or.inl h1)
  | false =>
    cases h2 : startsWith i ['\\', '$', '['] with
    | true => exact Or.inr (Or.inr h2)
    | false => simp [h1, h2] at hn

/-- A `content` run inside a string without unescaped `${`: it copies exactly what it
consumes, stops at the end or at an escape, and agrees with `unescapeFrom false`. -/
theorem content_esc : ∀ (r rp : Str), escOk rp r = true → startsWith r ['$', '{'] = false →
    r = (content r).1 ++ (content r).2 ∧
    escOk ((content r).1.reverse ++ rp) (content r).2 = true ∧
    StopAt (content r).2 ∧
    unescapeFrom false r = (content r).1 ++ unescapeFrom false (content r).2
  | [], rp, _, _ => by
    have : content [] = ([], []) := rfl
    rw [this]
    exact ⟨rfl, rfl, Or.inl rfl, rfl⟩
  | c :: r, rp, h, ho => by
    rw [content_cons]
    by_cases hn : refNotOpen (c :: r) = true
    · simp only [hn, if_true]
      have hn' := hn
      simp only [refNotOpen, Bool.and_eq_true, Bool.not_eq_true'] at hn'
      obtain ⟨⟨⟨_, h1⟩, _⟩, h2⟩ := hn'
      obtain ⟨e1, e2, e3, e4⟩ := content_esc r (c :: rp) (escOk_tail h) (next_not_open h h1)
      refine ⟨?_, ?_, e3, ?_⟩
      · rw [List.cons_append, ← e1]
      · simpa using e2
      · rw [unescapeFrom_copy false c r h1 h2 (by simp), e4]; rfl
    · have hn' : refNotOpen (c :: r) = false := by simpa using hn
      simp only [hn', Bool.false_eq_true, if_false]
      refine ⟨rfl, h, refNotOpen_false_stop h ho hn', rfl⟩

/-- `content` leaves no more than it got. -/
theorem content_length_le (r : Str) : (content r).2.length ≤ r.length :=
  scan_length_le _ _ _

theorem stringP_esc {rp : Str} {c : Char} {r : Str} (h : escOk rp (c :: r) = true)
    (ho : startsWith (c :: r) ['$', '{'] = false) :
    ∃ p rp', stringP (c :: r) = some p ∧
      unescapeFrom true (c :: r) = p.1 ++ unescapeFrom true p.2 ∧
      escOk rp' p.2 = true ∧ startsWith p.2 ['$', '{'] = false := by
  have nd := escOk_no_dbl h
  cases h1 : startsWith (c :: r) ['\\', '$', '{'] with
  | true =>
    obtain ⟨rest, hi⟩ := (startsWith_iff_prefix _ _).1 h1
    cases hi
    have h3 := escOk_tail (escOk_tail (escOk_tail h))
    exact ⟨(['$', '{'], rest), _, by simp [stringP_eq, startsWith], unescapeFrom_refEsc true rest,
      h3, escOk_not_open h3 (by simp [escTail])⟩
  | false =>
    cases h2 : startsWith (c :: r) ['\\', '$', '['] with
    | true =>
      obtain ⟨rest, hi⟩ := (startsWith_iff_prefix _ _).1 h2
      cases hi
      have h3 := escOk_tail (escOk_tail (escOk_tail h))
      exact ⟨(['$', '['], rest), _, by simp [stringP_eq, startsWith],
        unescapeFrom_invEsc true rest, h3, escOk_not_open h3 (by simp [escTail])⟩
    | false =>
      cases h3 : startsWith (c :: r) ['\\', '\\', '}'] with
      | true =>
        obtain ⟨rest, hi⟩ := (startsWith_iff_prefix _ _).1 h3
        cases hi
        refine ⟨(['\\'], '}' :: rest), _, by simp [stringP_eq, startsWith], ?_,
          escOk_tail (escOk_tail h), by simp [startsWith]⟩
        show unescapeFrom true ('\\' :: '\\' :: '}' :: rest) = '\\' :: unescapeFrom true ('}' :: rest)
        rw [unescapeFrom_dbl, unescapeFrom_copy true '}' rest (by simp [startsWith])
          (by simp [startsWith]) (by simp [startsWith])]
      | false =>
        have hno : refNotOpen (c :: r) = true := by simp [refNotOpen, ho, h1, h2, nd]
        obtain ⟨_, c2, c3, c4⟩ := content_esc r (c :: rp) (escOk_tail h) (next_not_open h h1)
        refine ⟨(c :: (content r).1, (content r).2), _, ?_, ?_, c2, c3.not_open⟩
        · simp [stringP_eq, nd, h1, h2, h3, content_cons, hno]
        · rw [unescapeFrom_copy true c r h1 h2 (fun _ => h3), c4, c3.unescape_irrel true false]
          rfl

/-- The item loop on a string without unescaped `${`: only literals, whose concatenation is
`unescapeFrom true`. -/
theorem items_esc : ∀ (n : Nat) (i rp : Str), i.length + 2 ≤ n → escOk rp i = true →
    startsWith i ['$', '{'] = false →
    ∃ ls : List Str, items n i = .ok (ls.map Token.lit, []) ∧
      ls.flatten = unescapeFrom true i ∧ (i ≠ [] → ls ≠ []) := by
  intro n
  induction n with
  | zero => intro i _ h; omega
  | succ n ih =>
    intro i rp hl h ho
    obtain ⟨m, rfl⟩ : ∃ m, n = m + 1 := ⟨n - 1, by omega⟩
    cases i with
    | nil => exact ⟨[], items_nil, rfl, fun h => absurd rfl h⟩
    | cons c r =>
      obtain ⟨⟨s, rest⟩, rp', hs, hu, hok, hno⟩ := stringP_esc h ho
      have hlt : rest.length < (c :: r).length := (stringP_suffix hs).2.1
      obtain ⟨ls, e1, e2, _⟩ := ih rest rp' (by omega) hok hno
      refine ⟨s :: ls, ?_, ?_, by simp⟩
      · rw [items_str (reference_not_open ho) hs, e1]; rfl
      · rw [List.flatten_cons, e2, hu]

/-- **Escaped markers are literal text.**  If a string contains a marker (`${` or `$[`) but
every `${` in it is escaped — preceded by a backslash that is not itself preceded by a
backslash — then `Token::parse` accepts it and the result is the single literal
`unescape s`: no reference is ever produced.  (`$[` needs no escape; `\$[` loses its
backslash.) -/
theorem escaped_only_literal (s : Str) (hm : containsMarker s = true)
    (h : ∀ i, unescapedOpenAt s i = false) :
    Token.parse s = .ok (some (.lit (unescape s))) := by
  have hok := escOk_of_noOpen h
  have ho := escOk_not_open hok (by simp [escTail])
  obtain ⟨ls, e1, e2, e3⟩ := items_esc (s.length + 2) s [] (Nat.le_refl _) hok ho
  have hne : s ≠ [] := by intro h0; subst h0; simp [containsMarker] at hm
  have hls := e3 hne
  apply parse_ok_of hm (n := s.length + 2)
  rw [parseRefF_of_items e1 (by simpa using hls), coalesce_lits ls hls, e2]
  rfl

/-- … and so it renders as that literal text, whatever the parameters. -/
theorem escaped_only_renders_literal (n : Nat) (root : Mapping) (st : RState) (s : Str)
    (hm : containsMarker s = true) (h : ∀ i, unescapedOpenAt s i = false) :
    interp (n + 3) root (.str s) st = .ok (.lit (unescape s), st) := by
  -- `n + 3`: `interp`, `tokRender` and `tokResolve` take one unit of fuel each
  simp [interp, escaped_only_literal s hm h, tokRender, tokResolve, rawString]

/-! ### 8. Escapes next to live references -/

/-- **`\}` inside a reference is a literal `}`**: `${a\}b}` is the reference with the single
path literal `a}b` — the escaped brace neither closes the reference nor survives as `\}`. -/
theorem escaped_close_in_ref (a b : Str)
    (ha : ∀ c ∈ a, c ≠ '$' ∧ c ≠ '\\' ∧ c ≠ '}') (hb : ∀ c ∈ b, c ≠ '$' ∧ c ≠ '\\' ∧ c ≠ '}') :
    Token.parse ('$' :: '{' :: (a ++ '\\' :: '}' :: (b ++ ['}']))) =
      .ok (some (.ref [.lit (a ++ '}' :: b)])) := by
  have h : Parses ('$' :: '{' :: (a ++ '\\' :: '}' :: (b ++ ['}']))) [.ref [.lit (a ++ '}' :: b)]] [] :=
    .ref (reference_escClose (n := 0) ha hb) .nil
  exact h.parse (containsMarker_open [] _) (by simp)

/-- **`\\` before `${` is one literal backslash and does *not* escape the reference**:
`pre\\${path}` is `Combined [Literal (pre ++ "\"), Ref [Literal path]]`. -/
theorem double_backslash_before_ref (pre path : Str)
    (hpre : ∀ c ∈ pre, c ≠ '$' ∧ c ≠ '\\')
    (hpath : ∀ c ∈ path, c ≠ '$' ∧ c ≠ '\\' ∧ c ≠ '}') (hne : path ≠ []) :
    Token.parse (pre ++ '\\' :: '\\' :: '$' :: '{' :: (path ++ ['}'])) =
      .ok (some (.combined [.lit (pre ++ ['\\']), .ref [.lit path]])) := by
  have hm : containsMarker (pre ++ '\\' :: '\\' :: '$' :: '{' :: (path ++ ['}'])) = true := by
    have := containsMarker_open (pre ++ ['\\', '\\']) (path ++ ['}'])
    simpa using this
  have h : Parses (pre ++ '\\' :: '\\' :: '$' :: '{' :: (path ++ ['}']))
      (litOpt pre ++ [.lit ['\\'], .ref [.lit path]]) [] :=
    .optLit hpre (contentStep_dblEsc _) (.dblEsc (.ref (reference_simple (n := 0) hne hpath) .nil))
  rw [h.parse hm (by simp)]
  by_cases h1 : pre = [] <;> simp [litOpt, h1, coalesce, pack]

/-! ### 9. Round trip: printing a well-formed token tree and parsing it back -/

mutual
/-- The obvious concrete syntax of a token tree (no escapes are needed when the literal
text is free of `$`, `\`, `}`). -/
def encode : Token → Str
  | .lit s => s
  | .ref ps => '$' :: '{' :: (encodeL ps ++ ['}'])
  | .combined ps => encodeL ps
def encodeL : List Token → Str
  | [] => []
  | t :: ts => encode t ++ encodeL ts
end

def plainChar (c : Char) : Bool := c != '$' && c != '\\' && c != '}'

mutual
def plainTok : Token → Bool
  | .lit s => s.all plainChar
  | .ref ps => plainToks ps
  | .combined ps => plainToks ps
def plainToks : List Token → Bool
  | [] => true
  | t :: ts => plainTok t && plainToks ts
end

/-- `all plainChar` spelled out. -/
theorem plain_of_all {s : Str} (h : s.all plainChar = true) :
    ∀ c ∈ s, c ≠ '$' ∧ c ≠ '\\' ∧ c ≠ '}' := by
  intro c hc
  have := List.all_eq_true.1 h c hc
  simp only [plainChar, Bool.and_eq_true, bne_iff_ne, ne_eq] at this
  exact ⟨this.1.1, this.1.2, this.2⟩

/-- What follows a literal in a list without adjacent literals: nothing, or a `${`. -/
theorem after_lit {ps : List Token} (hw : Token.wfInnerL ps = true)
    (hh : headIsLit ps = false) : encodeL ps = [] ∨ ∃ r, encodeL ps = '$' :: '{' :: r := by
  cases ps with
  | nil => left; rfl
  | cons t ts =>
    right
    cases t with
    | lit a => simp [headIsLit, Token.isLit] at hh
    | ref q => exact ⟨_, by simp [encodeL, encode]; rfl⟩
    | combined q => simp [Token.wfInnerL, Token.wfInner] at hw

/-- One round of either item loop on a printed token list followed by `stop` (nothing at the
top level, the closing `}` inside a reference), given the round trip for the rest of the list
and for nested references at the fuel that is left. -/
theorem itemStep_roundtrip {leaf : Str → Option (Str × Str)}
    {k : Str → Except PErr (List Token × Str)} {n : Nat} {stop : Str}
    (hrun : ∀ {a tail : Str}, a ≠ [] → (∀ c ∈ a, c ≠ '$' ∧ c ≠ '\\' ∧ c ≠ '}') →
      (tail = stop ∨ ∃ r, tail = '$' :: '{' :: r) → leaf (a ++ tail) = some (a, tail))
    (hstop : leaf stop = none) (hso : startsWith stop ['$', '{'] = false)
    (ihA : ∀ ts, Token.wfInnerL ts = true → noAdjLit ts = true → plainToks ts = true →
      (encodeL ts ++ stop).length + 2 ≤ n → k (encodeL ts ++ stop) = .ok (ts, stop))
    (ihB : ∀ q tail, (Token.ref q).wfInner = true → plainToks q = true →
      (encodeL q ++ '}' :: tail).length + 3 ≤ n →
      reference n ('$' :: '{' :: (encodeL q ++ '}' :: tail)) = .ok (.ref q, tail))
    {ps : List Token} (hw : Token.wfInnerL ps = true) (ha : noAdjLit ps = true)
    (hp : plainToks ps = true) (hl : (encodeL ps ++ stop).length + 2 ≤ n + 1) :
    itemStep leaf k (reference n (encodeL ps ++ stop)) (encodeL ps ++ stop) = .ok (ps, stop) := by
  obtain ⟨m, rfl⟩ : ∃ m, n = m + 1 := ⟨n - 1, by omega⟩
  cases ps with
  | nil => rw [encodeL, List.nil_append, reference_not_open hso, itemStep_stop hstop]
  | cons t ts =>
    simp only [Token.wfInnerL, Bool.and_eq_true] at hw
    simp only [noAdjLit, Bool.and_eq_true, Bool.not_eq_true'] at ha
    simp only [plainToks, Bool.and_eq_true] at hp
    cases t with
    | lit a =>
      have hpa := plain_of_all hp.1
      simp only [encodeL, encode, List.append_assoc, List.length_append] at hl ⊢
      cases a with
      | nil => simp [Token.wfInner] at hw
      | cons c cs =>
        have htail : encodeL ts ++ stop = stop ∨ ∃ r, encodeL ts ++ stop = '$' :: '{' :: r := by
          rcases after_lit hw.2 (by simpa [Token.isLit] using ha.1) with h0 | ⟨r, h0⟩ <;> rw [h0]
          · exact .inl rfl
          · exact .inr ⟨_, rfl⟩
        rw [List.cons_append, reference_plain_head (hpa c List.mem_cons_self).1,
          ← List.cons_append, itemStep_leaf (hrun (List.cons_ne_nil c cs) hpa htail),
          ihA ts hw.2 ha.2 hp.2
            (by simp only [List.length_cons] at hl; simp only [List.length_append]; omega)]
        rfl
    | ref q =>
      simp only [encodeL, encode, List.cons_append, List.append_assoc, List.nil_append,
        List.length_cons, List.length_append] at hl ⊢
      rw [ihB q (encodeL ts ++ stop) hw.1 hp.1
        (by simp only [List.length_append, List.length_cons]; omega)]
      show consTok _ (k (encodeL ts ++ stop)) = _
      rw [ihA ts hw.2 ha.2 hp.2 (by simp only [List.length_append]; omega)]
      rfl
    | combined q => simp [Token.wfInner] at hw

/-- Round trip below the top level: the `ref_item` loop reads back a printed part list up
to the closing `}`, and `reference` reads back a printed reference, at any adequate fuel. -/
theorem roundtrip_aux : ∀ n,
    (∀ ps rest, Token.wfInnerL ps = true → noAdjLit ps = true → plainToks ps = true →
      (encodeL ps ++ '}' :: rest).length + 2 ≤ n →
      refItems n (encodeL ps ++ '}' :: rest) = .ok (ps, '}' :: rest)) ∧
    (∀ q rest, (Token.ref q).wfInner = true → plainToks q = true →
      (encodeL q ++ '}' :: rest).length + 3 ≤ n →
      reference n ('$' :: '{' :: (encodeL q ++ '}' :: rest)) = .ok (.ref q, rest)) := by
  intro n
  induction n with
  | zero => refine ⟨?_, ?_⟩ <;> intros <;> omega
  | succ n ih =>
    obtain ⟨ihA, ihB⟩ := ih
    refine ⟨?_, ?_⟩
    · intro ps rest hw ha hp hl
      rw [refItems_succ]
      refine itemStep_roundtrip (fun hne hpl ht => refLeaf_run_stop hne hpl ?_)
        (refLeaf_none (by rw [refString, scan_stop (refStringStep_close rest)])) rfl
        (fun ts => ihA ts rest) ihB hw ha hp hl
      rcases ht with rfl | ⟨r, rfl⟩
      · exact refStringStep_close rest
      · exact refStringStep_open r
    · intro q rest hw hp hl
      simp only [Token.wfInner, Bool.and_eq_true] at hw
      obtain ⟨⟨h1, h2⟩, h3⟩ := hw
      have hne : q ≠ [] := by intro h0; subst h0; simp at h1
      have hA := ihA q rest h3 h2 hp (by omega)
      rw [reference_of_refItems hA hne, coalesce_of_noAdjLit q h2]

/-- `reference` reads back a printed well-formed reference and leaves what follows. -/
theorem reference_roundtrip {n : Nat} {q : List Token} {rest : Str}
    (hw : (Token.ref q).wfInner = true) (hp : plainToks q = true)
    (hl : (encodeL q ++ '}' :: rest).length + 3 ≤ n) :
    reference n ('$' :: '{' :: (encodeL q ++ '}' :: rest)) = .ok (.ref q, rest) :=
  (roundtrip_aux n).2 q rest hw hp hl

/-- The top-level `item` loop reads back a printed well-formed token list. -/
theorem items_roundtrip : ∀ (n : Nat) (ps : List Token), Token.wfInnerL ps = true →
    noAdjLit ps = true → plainToks ps = true → (encodeL ps).length + 2 ≤ n →
    items n (encodeL ps) = .ok (ps, []) := by
  intro n
  induction n with
  | zero => intros; omega
  | succ n ih =>
    intro ps hw ha hp hl
    have h := itemStep_roundtrip (leaf := stringP) (k := items n) (stop := [])
      (fun hne hpl ht => stringP_run_stop hne (fun c hc => ⟨(hpl c hc).1, (hpl c hc).2.1⟩)
        (by rcases ht with rfl | ⟨r, rfl⟩; exact contentStep_nil; exact contentStep_open r))
      stringP_nil rfl (fun ts hw ha hp hl => by simpa using ih ts hw ha hp (by simpa using hl))
      (fun q tail => reference_roundtrip) hw ha hp (by simpa using hl)
    rwa [List.append_nil, ← items_succ] at h

theorem parseRefF_encodeL {n : Nat} {ps : List Token} (hw : Token.wfInnerL ps = true)
    (ha : noAdjLit ps = true) (hp : plainToks ps = true) (hne : ps ≠ [])
    (hn : (encodeL ps).length + 2 ≤ n) : parseRefF n (encodeL ps) = .ok (pack ps) := by
  rw [parseRefF_of_items (items_roundtrip n ps hw ha hp hn) hne, coalesce_of_noAdjLit ps ha]

/-- **Round trip.**  Every well-formed token tree (`Token.wfTop`: the shape invariant that
`parse_wf` shows all parse results have) whose literal text avoids `$`, `\`, `}` is the
parse of its own concrete syntax, at any fuel `≥ length + 2`.  In particular arbitrarily
deeply nested references such as `${a${b}}` are accepted with the expected structure. -/
theorem roundtrip (t : Token) (hw : t.wfTop = true) (hp : plainTok t = true) (n : Nat)
    (hn : (encode t).length + 2 ≤ n) : parseRefF n (encode t) = .ok t := by
  -- a token that is not `combined` is the one-element list of itself
  have inner : ∀ t : Token, t.wfInner = true → plainTok t = true → (encode t).length + 2 ≤ n →
      parseRefF n (encode t) = .ok t := fun t hw hp hn => by
    have e : encodeL [t] = encode t := by rw [encodeL, encodeL, List.append_nil]
    exact e ▸ parseRefF_encodeL (ps := [t]) (by rw [Token.wfInnerL, Token.wfInnerL, hw]; rfl)
      (by simp [noAdjLit, headIsLit]) (by rw [plainToks, plainToks, hp]; rfl)
      (List.cons_ne_nil _ _) (e ▸ hn)
  cases t with
  | lit a => exact inner _ hw hp hn
  | ref q => exact inner _ hw hp hn
  | combined ps =>
    simp only [Token.wfTop, Bool.and_eq_true, decide_eq_true_eq] at hw
    obtain ⟨⟨h1, h2⟩, h3⟩ := hw
    rw [encode] at hn ⊢
    rw [plainTok] at hp
    rw [parseRefF_encodeL h3 h2 hp (by intro h0; subst h0; simp at h1) hn]
    match ps, h1 with
    | a :: b :: r, _ => rfl

/-- Round trip through `Token::parse` (which only runs the grammar when a marker is
present; a plain tree has one exactly when it is not a bare literal). -/
theorem roundtrip_parse (t : Token) (hw : t.wfTop = true) (hp : plainTok t = true)
    (hm : containsMarker (encode t) = true) : Token.parse (encode t) = .ok (some t) :=
  parse_ok_of hm (roundtrip t hw hp _ (Nat.le_refl _))

/-! ### Non-vacuity and concrete instances

(`"\\"` is one backslash in Lean string syntax.) -/

/-- Beyond the end of the string nothing opens, so `∀ i` can be checked up to the length. -/
theorem noOpen_of_bounded {s : Str} (h : ∀ i, i < s.length → unescapedOpenAt s i = false) :
    ∀ i, unescapedOpenAt s i = false := by
  intro i
  by_cases hi : i < s.length
  · exact h i hi
  · have : s.drop i = [] := List.drop_eq_nil_of_le (by omega)
    simp [unescapedOpenAt, this, startsWith]

example : Token.parse "plain $ text { } \\ here".toList = .ok none := by
  -- `String.toList_ofList`: the kernel's own evaluation of `String.toList` is quadratic
  rw [String.toList_ofList]
  exact no_marker_parse_none _ (by decide +kernel)
example : containsMarker "a$[b".toList = true ∧ containsMarker "a${b".toList = true ∧
    containsMarker "a$b{".toList = false := by decide +kernel

-- the fuel bound `length + 2` is attained by the empty string
example : items 1 [] = .error .fuel ∧ items 2 [] = .ok ([], []) := by decide +kernel

example : Token.parse "\\${a}".toList = .ok (some (.lit "${a}".toList)) := by decide +kernel
example : Token.parse "x\\$[a]".toList = .ok (some (.lit "x$[a]".toList)) := by decide +kernel
example : Token.parse "\\\\${a}".toList =
    .ok (some (.combined [.lit "\\".toList, .ref [.lit "a".toList]])) := by decide +kernel
example : unescapedOpenAt "\\${a}".toList 1 = false ∧ unescapedOpenAt "${a}".toList 0 = true ∧
    unescapedOpenAt "\\\\${a}".toList 2 = true ∧ unescapedOpenAt "x\\\\\\${a}".toList 4 = true := by
  decide +kernel
-- `unescape`: `\\}` loses a backslash only at item start
example : unescape "a\\${b}\\$[c]\\\\}".toList = "a${b}$[c]\\\\}".toList := by decide +kernel
example : unescape "\\\\}\\${b}\\\\}".toList = "\\}${b}\\\\}".toList := by decide +kernel
example : Token.parse "pass \\${foo} and \\$[bar]".toList =
    .ok (some (.lit "pass ${foo} and $[bar]".toList)) := by
  repeat rw [String.toList_ofList]
  exact (escaped_only_literal _ (by decide +kernel) (noOpen_of_bounded (by decide +kernel))).trans
    (by decide +kernel)
example : Token.parse "${foo\\}}".toList = .ok (some (.ref [.lit "foo}".toList])) := by
  repeat rw [String.toList_ofList]
  exact escaped_close_in_ref "foo".toList [] (by decide) (by decide)
example : Token.parse "ab\\\\${foo}".toList =
    .ok (some (.combined [.lit "ab\\".toList, .ref [.lit "foo".toList]])) := by
  repeat rw [String.toList_ofList]
  exact double_backslash_before_ref "ab".toList "foo".toList (by decide) (by decide) (by decide)

example : Token.parse "ab${cd".toList = .error (.parse "ab${cd".toList) :=
  unclosed_is_error "ab".toList "cd".toList (by decide) (by decide)
example : Token.parse "ab${}cd".toList = .error (.parse "ab${}cd".toList) :=
  empty_ref_is_error "ab".toList "cd".toList (by decide)
example (n : Nat) (s : Str) (t : Token) (h : parseRefF n s = .ok t) : t ≠ .ref [] :=
  fun h0 => ref_nonempty h (h0 ▸ Sub.refl _) rfl
example (n : Nat) (s : Str) (ps : List Token) (h : parseRefF n s = .ok (.ref ps))
    (q : List Token) (hq : Token.ref q ∈ ps) : q ≠ [] :=
  ref_nonempty h (Sub.inRef hq (Sub.refl _))
example : coalesce [.lit "a".toList, .lit "b".toList, .ref [.lit "c".toList], .lit "d".toList] =
    [.lit "ab".toList, .ref [.lit "c".toList], .lit "d".toList] := by decide +kernel

example : Token.parse "${foo}".toList = .ok (some (.ref [.lit "foo".toList])) :=
  (congrArg Token.parse (by decide +kernel)).trans
    (bare_ref_accepted "foo".toList (by decide) (by decide))
example : Token.parse "a-${foo:bar}-b".toList =
    .ok (some (.combined [.lit "a-".toList, .ref [.lit "foo:bar".toList], .lit "-b".toList])) := by
  repeat rw [String.toList_ofList]
  exact (congrArg Token.parse (by decide +kernel)).trans
    (embedded_ref_accepted _ _ _ (by decide) (by decide) (by decide) (by decide) (by decide) (by decide))
example : Token.parse "foo}${bar}".toList =
    .ok (some (.combined [.lit "foo}".toList, .ref [.lit "bar".toList]])) := by
  repeat rw [String.toList_ofList]
  exact simple_ref_accepted "foo}".toList "bar".toList [] (by decide) (by decide) (by decide) (by decide)

example : Token.parse "${foo:${bar:${baz}}}-${x}".toList =
    .ok (some (.combined [.ref [.lit "foo:".toList, .ref [.lit "bar:".toList, .ref [.lit "baz".toList]]],
      .lit "-".toList, .ref [.lit "x".toList]])) := by
  repeat rw [String.toList_ofList]
  exact (congrArg Token.parse (by decide +kernel)).trans
    (roundtrip_parse _ (by decide +kernel) (by decide +kernel) (by decide +kernel))

end C06
end Reclass
