/-
  C19b — C19 end to end: the parameters that `Reclass::render_node` (model: `renderNode`) returns
  always convert to native Python objects (`Value::as_py_obj` / `Mapping::as_py_dict`, model:
  `toPy`), and faithfully so.

  C19 is about `toPy` on the output of `render_parameters` for one well-formed mapping; composed
  here with C07b (the rendered parameters of a node are `Closed ∧ WF`), for every `InvOK`
  inventory: the `unreachable!()` of `as_py_obj` (model: `.panic .pyVl`) is dead for the
  parameters of every rendered node; they arrive as a dict; and if all their mapping keys are
  strings (or, more generally, pairwise different in Python) they arrive as exactly the specified
  object `pyOf`.  The last example shows that the marker hypothesis is needed end to end.
-/
import Reclass.Props.C19
import Reclass.Props.C07b
namespace Reclass
namespace C19

/-! ### Totality -/

/-- **C19 end to end (no panic).** The parameters of every node rendered from an `InvOK`
inventory are accepted by `as_py_obj`: the `unreachable!()` on `ValueList` is dead code for
rendered nodes, through the whole include walk and for every fuel. -/
theorem renderNode_toPy_total {fuel : Nat} {r : Inv} {name : Str} {info : NodeInfoM} (hr : InvOK r)
    (h : renderNode fuel r name = .ok info) : ∃ p, toPy info.params.toValue = .ok p :=
  toPy_total_on_closed _ (C07.renderNode_closed hr h).1

/-- The same, negatively: the conversion of a rendered node's parameters never fails, in
particular not with the panic of `as_py_obj`. -/
theorem renderNode_toPy_no_panic {fuel : Nat} {r : Inv} {name : Str} {info : NodeInfoM}
    (hr : InvOK r) (h : renderNode fuel r name = .ok info) (e : Err) :
    toPy info.params.toValue ≠ .error e := by
  obtain ⟨p, hp⟩ := renderNode_toPy_total hr h
  rw [hp]; exact fun h => nomatch h

/-- What arrives is a dict. -/
theorem renderNode_toPy_dict {fuel : Nat} {r : Inv} {name : Str} {info : NodeInfoM} (hr : InvOK r)
    (h : renderNode fuel r name = .ok info) : ∃ d, toPy info.params.toValue = .ok (.dict d) := by
  obtain ⟨p, hp⟩ := renderNode_toPy_total hr h
  obtain ⟨d, hd, _⟩ := (toPy_containers [] info.params.es info.params.ck info.params.ok p).2 hp
  exact ⟨d, hd ▸ hp⟩

/-- `renderNodeSrc` form. -/
theorem renderNodeSrc_toPy_total {fuel : Nat} {r : Inv} {nmeta : MetaM} {src : ClassSrc}
    {info : NodeInfoM} (hr : InvOK r) (hs : SrcOK src)
    (h : renderNodeSrc fuel r nmeta src = .ok info) : ∃ p, toPy info.params.toValue = .ok p :=
  toPy_total_on_closed _ (C07.renderNodeSrc_closed hr hs h).1

/-! ### Faithfulness -/

/-- **C19 end to end (faithful), general form.** If no mapping in the rendered parameters has two
keys that Python identifies (`True == 1`, `False == 0`; `DistinctKeys`), they arrive as exactly
the specified native object `pyOf`: every mapping a dict with all its entries in order, every
sequence a list in order, every scalar the native scalar, at every depth. -/
theorem renderNode_toPy_faithful_of_distinct {fuel : Nat} {r : Inv} {name : Str} {info : NodeInfoM}
    (hr : InvOK r) (h : renderNode fuel r name = .ok info) (hd : DistinctKeys info.params.toValue) :
    toPy info.params.toValue = .ok (pyOf info.params.toValue) :=
  toPy_eq_pyOf _ (C07.renderNode_closed hr h).1 hd

/-- **C19 end to end (faithful), the ordinary case.** If all keys of the rendered parameters are
strings (`StrKeyed`), the rendered parameters arrive as exactly `pyOf` of them — uniqueness of the
keys is not a hypothesis, it is `WF` from C07b. -/
theorem renderNode_toPy_faithful {fuel : Nat} {r : Inv} {name : Str} {info : NodeInfoM}
    (hr : InvOK r) (h : renderNode fuel r name = .ok info) (hs : StrKeyed info.params.toValue) :
    toPy info.params.toValue = .ok (pyOf info.params.toValue) := by
  obtain ⟨hc, hw⟩ := C07.renderNode_closed hr h
  exact toPy_eq_pyOf _ hc (distinctKeys_of_strKeyed _ hw hs)

/-- No entry is lost and the order is kept at the top level: the dict has exactly the keys of the
rendered parameters (converted), in order. -/
theorem renderNode_toPy_keys {fuel : Nat} {r : Inv} {name : Str} {info : NodeInfoM}
    (hr : InvOK r) (h : renderNode fuel r name = .ok info) (hs : StrKeyed info.params.toValue) :
    ∃ d, toPy info.params.toValue = .ok (.dict d) ∧
      d.map Prod.fst = info.params.es.map (fun e => e.1.toPy) := by
  refine ⟨pyOfEs info.params.es, ?_, pyOfEs_keys _⟩
  have := renderNode_toPy_faithful hr h hs
  simpa [Mapping.toValue, pyOf] using this

/-! ### The whole inventory -/

/-- Every node stored in a rendered inventory (results = `renderNode` over the node names of an
`InvOK` inventory, any order) converts to a Python dict. -/
theorem render_inventory_toPy_total {r : Inv} (hr : InvOK r) {fuel : Nat} {names : List Str}
    {inv : InventoryM}
    (h : Inventory.render (names.map fun n => (n, renderNode fuel r n)) = .ok inv) :
    ∀ name info, (name, info) ∈ inv.nodes → ∃ d, toPy info.params.toValue = .ok (.dict d) := by
  intro name info hmem
  exact renderNode_toPy_dict hr (mem_map_graph (((C13.nodes_exact h).2 name info).1 hmem))

/-! ### Non-vacuity -/

mutual
def strKeyedB : Value → Bool
  | .map es _ _ => strKeyedEsB es
  | .seq l => strKeyedLB l
  | .vl l => strKeyedLB l
  | _ => true
def strKeyedLB : List Value → Bool
  | [] => true
  | v :: vs => strKeyedB v && strKeyedLB vs
def strKeyedEsB : List (Key × Value) → Bool
  | [] => true
  | (k, v) :: es => (match k with | .str _ => true | _ => false) && strKeyedB v && strKeyedEsB es
end

mutual
theorem strKeyedB_sound : ∀ (v : Value), strKeyedB v = true → StrKeyed v
  | .map es _ _, h => strKeyedEsB_sound es h
  | .seq l, h => strKeyedLB_sound l h
  | .vl l, h => strKeyedLB_sound l h
  | .null, _ => trivial
  | .bool _, _ => trivial
  | .num _, _ => trivial
  | .str _, _ => trivial
  | .lit _, _ => trivial
theorem strKeyedLB_sound : ∀ (l : List Value), strKeyedLB l = true → StrKeyedL l
  | [], _ => trivial
  | v :: vs, h => by
    simp only [strKeyedLB, Bool.and_eq_true] at h
    exact ⟨strKeyedB_sound v h.1, strKeyedLB_sound vs h.2⟩
theorem strKeyedEsB_sound : ∀ (es : List (Key × Value)), strKeyedEsB es = true → StrKeyedEs es
  | [], _ => trivial
  | (k, v) :: es, h => by
    simp only [strKeyedEsB, Bool.and_eq_true] at h
    refine ⟨?_, strKeyedB_sound v h.1.2, strKeyedEsB_sound es h.2⟩
    cases k <;> simp_all
end

mutual
/-- Python `repr`-like text of an object (only to check concrete conversions by evaluation). -/
def pyText : PyObj → Str
  | .none => "None".toList
  | .bool true => "True".toList
  | .bool false => "False".toList
  | .int i => (Int.repr i).toList
  | .float t => t
  | .str s => ['\''] ++ s ++ ['\'']
  | .list l => ['['] ++ pyTextL l ++ [']']
  | .dict es => ['{'] ++ pyTextEs es ++ ['}']
def pyTextL : List PyObj → Str
  | [] => []
  | x :: xs => pyText x ++ [','] ++ pyTextL xs
def pyTextEs : List (PyObj × PyObj) → Str
  | [] => []
  | (k, v) :: es => pyText k ++ [':'] ++ pyText v ++ [','] ++ pyTextEs es
end

def nodePyText (x : R NodeInfoM) : Option Str :=
  match x with
  | .ok info => (match toPy info.params.toValue with | .ok p => some (pyText p) | .error _ => none)
  | .error _ => none

/-- Node `n1` of the example inventory arrives in Python as the expected dict: entries in merge
order (`base`, `app`, `_reclass_`, the node), layered `a` merged, references resolved, markers
gone, the integer an `int`, `true`/`null` as `True`/`None`. -/
example : nodePyText (renderNode 30 exInvE2E "n1".toList) = some
    ("{'a':{'x':'1','y':2,'z':'n1',},'b':'over',".toList ++
     "'l':['1',True,None,],".toList ++
     "'_reclass_':{'environment':'base',".toList ++
     "'name':{'full':'n1','parts':['n1',],".toList ++
     "'path':'n1','short':'n1',},},'k':'v',}".toList) := by
  -- the kernel evaluates `String.toList` of a literal in quadratic time; rewrite it to the character list first
  repeat rw [String.toList_ofList]
  decide +kernel

/-- All keys of the rendered `n1` are strings, so `renderNode_toPy_faithful` applies to it. -/
example : ∃ info, renderNode 30 exInvE2E "n1".toList = .ok info ∧
    toPy info.params.toValue = .ok (pyOf info.params.toValue) := by
  have hk : (match renderNode 30 exInvE2E "n1".toList with
      | .ok info => strKeyedB info.params.toValue
      | .error _ => false) = true := by decide +kernel
  cases h : renderNode 30 exInvE2E "n1".toList with
  | ok info =>
    rw [h] at hk
    exact ⟨info, rfl, renderNode_toPy_faithful exInvE2E_ok h (strKeyedB_sound _ hk)⟩
  | error e => rw [h] at hk; simp at hk

/-- **The marker hypothesis is needed end to end.** For the inventory `C07.exInvTriple` (a class
file with the keys `a` and `===a`) `render_node` succeeds, and converting the rendered parameters
reaches the `unreachable!()` of `as_py_obj`. -/
example : TextL.errOf (renderNode 30 C07.exInvTriple "n".toList) = none ∧
    TextL.errOf (match renderNode 30 C07.exInvTriple "n".toList with
      | .ok info => toPy info.params.toValue
      | .error e => .error e) = some (.panic .pyVl) := by decide +kernel

/-- Python identifies `True` and `1`: with non-string keys the faithful statement needs
`DistinctKeys` (cf. `C19.py_key_collision`); totality does not. -/
example : nodePyText (renderNode 30
    { nodes := [("n".toList, { path := ["n.yml".toList], loc := [] },
        .ok { params := [(.num (.int 1), .str "one".toList), (.bool true, .str "yes".toList)] })] }
    "n".toList) = some
    ("{'_reclass_':{'environment':'base',".toList ++
     "'name':{'full':'n','parts':['n',],".toList ++
     "'path':'n','short':'n',},},1:'yes',}".toList) := by
  repeat rw [String.toList_ofList]
  decide +kernel

end C19
end Reclass
