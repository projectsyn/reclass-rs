/-
  C17b — C17 end to end: "a node's application list is the ordered, duplicate-free accumulation of
  the application lists of its classes and of itself, in merge order" — and the same for its class
  list.

  `Props/C17` is about the list type (`RList.merge`, `~` negation, the invariant `C17.Inv`);
  `Props/C01` shows that the walk merges the traced classes in trace order.  This file composes
  the two for `renderNode` (`Reclass::render_node`), for every fuel and every inventory.

  The *trace* `tr` of a node is the list of classes merged by the depth-first walk of its include
  list, in merge order (`Walk`, started with nothing seen and an empty accumulator).  The
  application list of a class `t ∈ tr` is `t.2.apps`, and `t.2` is the decoded class file
  (`IsClassFile`), so `t.2.apps = RList.ofList cs.apps` for the file's `applications` entries;
  the node's own list is `self.apps = RList.ofList src.apps`.  What accumulates in the class list
  are the *include lists* of the classes and of the node, not the names of the traced classes.

  Inside `namespace Reclass.C17` the name `Inv` is the list invariant of `Props/C17`; the
  inventory type is written `Reclass.Inv`.
-/
import Reclass.Lemmas.E2E2L
import Reclass.Props.C01
import Reclass.Props.C17
namespace Reclass
namespace C17
open E2E2

/-! ### Decoded files -/

theorem ofSrc_apps {loc : Option (List Str)} {src : ClassSrc} {n : NodeM}
    (h : NodeM.ofSrc loc src = .ok n) : n.apps = RList.ofList src.apps := by
  unfold NodeM.ofSrc at h
  simp only at h
  cases h1 : Mapping.ofYamlEntries src.params with
  | error e => simp [h1] at h
  | ok p => simp only [h1, Except.ok.injEq] at h; subst h; rfl

/-- `t` (a traced name with its decoded contents) is the class file `cs` of inventory `r`: the
file stored under the absolute form of the name (relative to the location `loc'` of the including
class), decoded at the file's own location. -/
def IsClassFile (r : Reclass.Inv) (t : TraceEntry) (cs : ClassSrc) : Prop :=
  ∃ loc' ci, findEntity (absClassName loc' t.1) r.classes = some (ci, .ok cs) ∧
    NodeM.ofSrc (some ci.loc) cs = .ok t.2

theorem isClassFile_apps {r : Reclass.Inv} {t : TraceEntry} {cs : ClassSrc} (h : IsClassFile r t cs) :
    t.2.apps = RList.ofList cs.apps := by
  obtain ⟨_, _, _, ho⟩ := h
  exact ofSrc_apps ho

/-- `csrcs` are the class files of the trace `tr`, entry by entry. -/
def FilesOf (r : Reclass.Inv) : List TraceEntry → List ClassSrc → Prop
  | [], [] => True
  | t :: ts, c :: cs => IsClassFile r t c ∧ FilesOf r ts cs
  | _, _ => False

theorem exists_filesOf {r : Reclass.Inv} :
    ∀ (tr : List TraceEntry), (∀ t ∈ tr, ∃ cs, IsClassFile r t cs) → ∃ csrcs, FilesOf r tr csrcs
  | [], _ => ⟨[], trivial⟩
  | t :: ts, h => by
    obtain ⟨c, hc⟩ := h t (List.mem_cons_self ..)
    obtain ⟨cs, hcs⟩ := exists_filesOf ts fun x hx => h x (List.mem_cons_of_mem _ hx)
    exact ⟨c :: cs, hc, hcs⟩

theorem filesOf_length {r : Reclass.Inv} : ∀ {tr : List TraceEntry} {csrcs : List ClassSrc},
    FilesOf r tr csrcs → csrcs.length = tr.length
  | [], [], _ => rfl
  | _ :: _, _ :: _, h => by simp only [List.length_cons, filesOf_length h.2]
  | [], _ :: _, h => h.elim
  | _ :: _, [], h => h.elim

/-- Every traced class is a decoded class file of the inventory. -/
theorem trace_entries_are_files {r : Reclass.Inv} {loc : Option (List Str)} {l seen : List Str} {root : NodeM}
    {seen' : List Str} {root' : NodeM} {tr : List TraceEntry}
    (h : Walk r loc l seen root seen' root' tr) :
    ∃ csrcs, FilesOf r tr csrcs := by
  apply exists_filesOf
  intro t ht
  obtain ⟨loc', hl⟩ := C01.trace_entries_loaded h t ht
  obtain ⟨ci, cs, hf, ho⟩ := readClass_some hl
  exact ⟨cs, loc', ci, hf, ho⟩

theorem filesOf_apps {r : Reclass.Inv} : ∀ {tr : List TraceEntry} {csrcs : List ClassSrc},
    FilesOf r tr csrcs → tr.map (·.2.apps) = csrcs.map fun cs => RList.ofList cs.apps
  | [], [], _ => rfl
  | _ :: _, _ :: _, h => by
    simp only [List.map_cons, filesOf_apps h.2, isClassFile_apps h.1]
  | [], _ :: _, h => h.elim
  | _ :: _, [], h => h.elim

/-! ### List facts -/

theorem RList.merge_empty (l : RList) : l.merge {} = l := rfl

theorem UList.merge_empty (l : UList) : l.merge {} = l := rfl

theorem UList.appendIfNew_of_mem {l : UList} {x : Str} (h : x ∈ l.items) : l.appendIfNew x = l := by
  simp [UList.appendIfNew, h]

theorem UList.merge_of_subset {l o : UList} (h : ∀ x ∈ o.items, x ∈ l.items) : l.merge o = l := by
  unfold UList.merge
  generalize o.items = xs at h
  induction xs with
  | nil => rfl
  | cons x xs ih =>
    rw [List.foldl_cons, UList.appendIfNew_of_mem (h x (List.mem_cons_self ..))]
    exact ih fun y hy => h y (List.mem_cons_of_mem _ hy)

theorem UList.merge_merge_self (l o : UList) : (l.merge o).merge o = l.merge o :=
  UList.merge_of_subset fun _ hx => Reclass.UList.mem_merge.2 (Or.inr hx)

theorem UList.appendIfNew_nodup {l : UList} (x : Str) (h : l.items.Nodup) :
    (l.appendIfNew x).items.Nodup := by
  unfold UList.appendIfNew
  split
  · exact h
  · rename_i hx; exact nodup_append_singleton h hx

theorem UList.merge_nodup {l : UList} (o : UList) (h : l.items.Nodup) : (l.merge o).items.Nodup := by
  unfold UList.merge
  generalize o.items = xs
  induction xs generalizing l with
  | nil => exact h
  | cons x xs ih => exact ih (UList.appendIfNew_nodup x h)

theorem UList.foldl_merge_nodup (ls : List UList) {l : UList} (h : l.items.Nodup) :
    (ls.foldl UList.merge l).items.Nodup := by
  induction ls generalizing l with
  | nil => exact h
  | cons o os ih => exact ih (UList.merge_nodup o h)

/-! ### The node's lists are the folds over the trace -/

/-- Core statement: both lists at once, with the trace as a `Walk` derivation. -/
theorem renderNode_lists_eq_fold {fuel : Nat} {r : Reclass.Inv} {name : Str} {info : NodeInfoM}
    (h : renderNode fuel r name = .ok info) :
    ∃ (ninfo : EntityInfo) (src : ClassSrc) (self : NodeM) (seen : List Str) (root0 : NodeM)
      (tr : List TraceEntry),
      findEntity name r.nodes = some (ninfo, .ok src) ∧
      NodeM.ofSrc none src = .ok self ∧
      Walk r none self.classes.items [] {} seen root0 tr ∧
      info.apps = ((tr.map (·.2.apps) ++ [self.apps]).foldl RList.merge {}).items ∧
      info.classes = ((tr.map (·.2.classes) ++ [self.classes]).foldl UList.merge {}).items := by
  rw [renderNode_eq] at h
  cases hfe : findEntity name r.nodes with
  | none => simp [hfe] at h
  | some e =>
    obtain ⟨ninfo, (src | w)⟩ := e
    · simp only [hfe] at h
      obtain ⟨self, rc, bp, seen, root0, tr, fin, e1, _, _, hw, hm, _, ha, hcl, _⟩ := C01.render_sound h
      refine ⟨ninfo, src, self, seen, root0, tr, rfl, e1, hw, ?_, ?_⟩
      · rw [ha, mergeSeq_apps hm]
        simp only [List.foldl_append, List.foldl_map, List.foldl_cons, List.foldl_nil,
          RList.merge_empty]
      · rw [hcl, mergeSeq_classes hm]
        simp only [List.foldl_append, List.foldl_map, List.foldl_cons, List.foldl_nil,
          UList.merge_merge_self]
    · simp [hfe] at h

/-- **C17, end to end.**  When a node renders, its application list is obtained by folding
`RList.merge` — negations of the incoming list first, then its items, each appended only if new
(`C17.merge_eq`) — over the application lists of the traced classes, in trace (= merge) order,
followed by the node's own list, starting from the empty list. -/
theorem renderNode_apps_eq_fold {fuel : Nat} {r : Reclass.Inv} {name : Str} {info : NodeInfoM}
    (h : renderNode fuel r name = .ok info) :
    ∃ (ninfo : EntityInfo) (src : ClassSrc) (self : NodeM) (seen : List Str) (root0 : NodeM)
      (tr : List TraceEntry),
      findEntity name r.nodes = some (ninfo, .ok src) ∧
      NodeM.ofSrc none src = .ok self ∧
      Walk r none self.classes.items [] {} seen root0 tr ∧
      info.apps = ((tr.map (·.2.apps) ++ [self.apps]).foldl RList.merge {}).items := by
  obtain ⟨ninfo, src, self, seen, root0, tr, h1, h2, h3, h4, _⟩ := renderNode_lists_eq_fold h
  exact ⟨ninfo, src, self, seen, root0, tr, h1, h2, h3, h4⟩

/-- The same in terms of the instrumented model walk: the trace is what `walkClassesT` returns
(with any sufficient fuel `m`). -/
theorem renderNode_apps_eq_fold_traced {fuel : Nat} {r : Reclass.Inv} {name : Str} {info : NodeInfoM}
    (h : renderNode fuel r name = .ok info) :
    ∃ (ninfo : EntityInfo) (src : ClassSrc) (self : NodeM) (seen : List Str) (root0 : NodeM)
      (tr : List TraceEntry) (m : Nat),
      findEntity name r.nodes = some (ninfo, .ok src) ∧
      NodeM.ofSrc none src = .ok self ∧
      walkClassesT m r none self.classes.items [] {} = .ok (seen, root0, tr) ∧
      info.apps = ((tr.map (·.2.apps) ++ [self.apps]).foldl RList.merge {}).items := by
  obtain ⟨ninfo, src, self, seen, root0, tr, h1, h2, h3, h4⟩ := renderNode_apps_eq_fold h
  obtain ⟨m, hm⟩ := C01.walk_complete h3
  exact ⟨ninfo, src, self, seen, root0, tr, m, h1, h2, (hm m (Nat.le_refl m)).1, h4⟩

/-- The same over the raw `applications` entries of the files: `csrcs` are the class files of the
trace, in trace order (`FilesOf`, `IsClassFile`), `src` is the node file; the node's application list is the
accumulation of `C17.accumulate_inv` over `csrcs.map apps ++ [src.apps]`. -/
theorem renderNode_apps_eq_fold_files {fuel : Nat} {r : Reclass.Inv} {name : Str} {info : NodeInfoM}
    (h : renderNode fuel r name = .ok info) :
    ∃ (ninfo : EntityInfo) (src : ClassSrc) (self : NodeM) (seen : List Str) (root0 : NodeM)
      (tr : List TraceEntry) (csrcs : List ClassSrc),
      findEntity name r.nodes = some (ninfo, .ok src) ∧
      NodeM.ofSrc none src = .ok self ∧
      Walk r none self.classes.items [] {} seen root0 tr ∧
      FilesOf r tr csrcs ∧
      info.apps = ((csrcs.map ClassSrc.apps ++ [src.apps]).foldl
        (fun (acc : RList) (f : List Str) => acc.merge (RList.ofList f)) {}).items := by
  obtain ⟨ninfo, src, self, seen, root0, tr, h1, h2, h3, h4⟩ := renderNode_apps_eq_fold h
  obtain ⟨csrcs, hcs⟩ := trace_entries_are_files h3
  refine ⟨ninfo, src, self, seen, root0, tr, csrcs, h1, h2, h3, hcs, ?_⟩
  rw [h4, filesOf_apps hcs, ofSrc_apps h2]
  simp only [List.foldl_append, List.foldl_map, List.foldl_cons, List.foldl_nil]

/-- The accumulated application list of a rendered node satisfies the list invariant of C17 in its
items: **no application occurs twice**. -/
theorem renderNode_apps_nodup {fuel : Nat} {r : Reclass.Inv} {name : Str} {info : NodeInfoM}
    (h : renderNode fuel r name = .ok info) : info.apps.Nodup := by
  obtain ⟨_, src, _, _, _, _, csrcs, _, _, _, _, h5⟩ := renderNode_apps_eq_fold_files h
  rw [h5]
  exact (accumulate_inv (csrcs.map ClassSrc.apps ++ [src.apps])).1

/-- The class list of a rendered node is the fold of `UList.merge` (append each item that is
new) over the include lists of the traced classes, in trace order, followed by the node's own
include list.  (The base node, which carries the node's include list into the walk, and the node
itself both contribute `self.classes`; the second merge changes nothing.) -/
theorem renderNode_classes_eq_fold {fuel : Nat} {r : Reclass.Inv} {name : Str} {info : NodeInfoM}
    (h : renderNode fuel r name = .ok info) :
    ∃ (ninfo : EntityInfo) (src : ClassSrc) (self : NodeM) (seen : List Str) (root0 : NodeM)
      (tr : List TraceEntry),
      findEntity name r.nodes = some (ninfo, .ok src) ∧
      NodeM.ofSrc none src = .ok self ∧
      Walk r none self.classes.items [] {} seen root0 tr ∧
      info.classes = ((tr.map (·.2.classes) ++ [self.classes]).foldl UList.merge {}).items := by
  obtain ⟨ninfo, src, self, seen, root0, tr, h1, h2, h3, _, h5⟩ := renderNode_lists_eq_fold h
  exact ⟨ninfo, src, self, seen, root0, tr, h1, h2, h3, h5⟩

/-- The class list of a rendered node is duplicate-free. -/
theorem renderNode_classes_nodup {fuel : Nat} {r : Reclass.Inv} {name : Str} {info : NodeInfoM}
    (h : renderNode fuel r name = .ok info) : info.classes.Nodup := by
  obtain ⟨_, _, _, _, _, _, _, _, _, h4⟩ := renderNode_classes_eq_fold h
  rw [h4]
  exact UList.foldl_merge_nodup _ List.nodup_nil

/-! ### Non-vacuity -/

section Examples

private def ei (p : String) : EntityInfo := { path := [p.toList], loc := [] }

/-- `top` includes `c1` and `c2`; the application lists are
`c1: [a, b]`, `c2: [~a, c, b]`, `top: [d]`, node: `[a, ~d]`. -/
private def exApps : Reclass.Inv :=
  { classes :=
      [ ("top".toList, ei "top.yml", .ok { classes := ["c1".toList, "c2".toList], apps := ["d".toList] }),
        ("c1".toList, ei "c1.yml", .ok { apps := ["a".toList, "b".toList] }),
        ("c2".toList, ei "c2.yml", .ok { apps := ["~a".toList, "c".toList, "b".toList] }) ],
    nodes := [ ("n".toList, ei "n.yml", .ok { classes := ["top".toList], apps := ["a".toList, "~d".toList] }) ] }

private def listsOf (x : R NodeInfoM) : Option (List Str × List Str) :=
  match x with
  | .ok i => some (i.apps, i.classes)
  | .error _ => none

private theorem exApps_lists : listsOf (renderNode 30 exApps "n".toList) =
    some (["b".toList, "c".toList, "a".toList], ["c1".toList, "c2".toList, "top".toList]) := by
  decide +kernel

/-- The node renders; merge order is `c1, c2, top`, then the node:
`[a, b]` → (`~a`) `[b]` → `[b, c]` → `[b, c, d]` → (node: `a` again, `~d`) `[b, c, a]`. -/
example : listsOf (renderNode 30 exApps "n".toList) =
    some (["b".toList, "c".toList, "a".toList], ["c1".toList, "c2".toList, "top".toList]) :=
  exApps_lists

/-- The trace of the walk is `c1, c2, top` … -/
example : C01.summary (walkClassesT 10 exApps none ["top".toList] [] {}) =
    some (["top".toList, "c1".toList, "c2".toList], ["c1".toList, "c2".toList, "top".toList], []) := by
  decide +kernel

/-- … and the fold of the theorem over the raw file lists in that order gives the rendered list. -/
example : ([["a".toList, "b".toList], ["~a".toList, "c".toList, "b".toList], ["d".toList],
      ["a".toList, "~d".toList]].foldl (fun acc f => acc.merge (RList.ofList f)) ({} : RList)).items =
    ["b".toList, "c".toList, "a".toList] := by decide +kernel

/-- The theorems apply (the premise is satisfiable). -/
example : ∃ info, renderNode 30 exApps "n".toList = .ok info ∧ info.apps.Nodup ∧ info.classes.Nodup := by
  cases h : renderNode 30 exApps "n".toList with
  | ok info => exact ⟨info, rfl, renderNode_apps_nodup h, renderNode_classes_nodup h⟩
  | error e =>
    have := exApps_lists
    rw [h] at this
    cases this

end Examples

end C17
end Reclass
