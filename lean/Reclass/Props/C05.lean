/-
  C05 — Text of a string that mixes literal text and references.

  "A string mixing text and references renders to the concatenation, in order, of its literal
  pieces and the text form of each referenced value after that value has itself been fully
  rendered.  Strings appear as-is, numbers in their canonical decimal form, true/false/null as
  True/False/None, and mappings and lists as compact JSON in which integers stay integers and
  no reference is left unresolved."

  Model functions: `slice` (= `interpolate_token_slice`, `src/refs/mod.rs`), `tokRender`
  (= `Token::render`), `rawString` (= `Value::raw_string`), `jsonOf`
  (= `serde_json::to_string(&serde_json::Value::from(v))`, `src/types/value.rs`).

  Fuel: `slice (n+1)` walks the pieces with fuel `n`, `n-1`, …; `slice_eq_concat` states the
  concatenation with exactly these indices (`Pieces`), `slice_eq_concat_uniform` with one fuel for
  all pieces (using fuel monotonicity, `Lemmas/Fuel`).
-/
import Reclass.Lemmas.TextL
namespace Reclass
namespace C05

/-! ### 1. Text form of scalars -/

/-- **`raw_string` of scalars.** A literal string appears as it is, `null` as `None`, booleans
as `True`/`False`, an integer in decimal notation (`Int.repr`: optional `-`, then digits), a
float as the token YAML printed for it. -/
theorem rawString_scalars :
    (∀ s, rawString (.lit s) = .ok s) ∧
    rawString .null = .ok "None".toList ∧
    rawString (.bool true) = .ok "True".toList ∧
    rawString (.bool false) = .ok "False".toList ∧
    (∀ i : Int, rawString (.num (.int i)) = .ok (Int.repr i).toList) ∧
    (∀ y j, rawString (.num (.float y j)) = .ok y) :=
  ⟨fun _ => rfl, rfl, rfl, rfl, fun _ => rfl, fun _ _ => rfl⟩

/-- Unparsed strings and layer lists have no text form: an error, not a panic. -/
theorem rawString_str_vl (s : Str) (l : List Value) :
    rawString (.str s) = .error (.rawStringOf "Value::String".toList) ∧
    rawString (.vl l) = .error (.rawStringOf "Value::ValueList".toList) := ⟨rfl, rfl⟩

/-- Containers are rendered as their JSON text. -/
theorem rawString_containers (es : List (Key × Value)) (ck ok : List Key) (l : List Value) :
    rawString (.map es ck ok) = jsonOf (.map es ck ok) ∧ rawString (.seq l) = jsonOf (.seq l) :=
  ⟨rfl, rfl⟩

/-! ### 2. Integers stay integers in embedded JSON -/

/-- **Integers are exact in JSON**: the JSON text of an integer is its decimal form (no `.0`,
no exponent), also as a list element and as a mapping value. -/
theorem json_int_exact (i : Int) :
    jsonOf (.num (.int i)) = .ok (Int.repr i).toList ∧
    jsonOf (.seq [.num (.int i)]) = .ok ("[".toList ++ (Int.repr i).toList ++ "]".toList) ∧
    (∀ k ck ok, jsonOf (.map [(.str k, .num (.int i))] ck ok) =
      .ok ("{".toList ++ jsonString k ++ ":".toList ++ (Int.repr i).toList ++ "}".toList)) := by
  refine ⟨rfl, ?_, ?_⟩
  · simp [jsonOf, jsonOfL, Num.jsonText, joinWith]
  · intro k ck ok
    simp [jsonOf, jsonOfEs, Num.jsonText, joinWith, sortedInsert, Key.jsonKey]

/-- Integers and floats are told apart: the integer `1` and the float `1.0` have different
JSON (and raw) text. -/
example : jsonOf (.seq [.num (.int 1), .num (.float "1.0".toList "1.0".toList)]) =
    .ok "[1,1.0]".toList := by decide +kernel

example : rawString (.num (.int (-12))) = .ok "-12".toList := by rfl

/-! ### 3. Totality on rendered data -/

/-- **JSON never meets a layer list in closed data**: on a closed value (no unparsed string, no
layer list at any depth) `jsonOf` succeeds; in particular the `todo!()` for `ValueList` is not
reached. -/
theorem json_no_vl {v : Value} (hc : Closed v) :
    (∃ t, jsonOf v = .ok t) ∧ jsonOf v ≠ .error (.panic .jsonVl) := by
  obtain ⟨t, ht⟩ := jsonOf_closed v hc
  exact ⟨⟨t, ht⟩, by rw [ht]; simp⟩

/-- That `todo!()` is the only way `jsonOf` can fail at all. -/
theorem json_only_error {v : Value} {e : Err} (h : jsonOf v = .error e) : e = .panic .jsonVl :=
  jsonOf_fails v e h

/-- `raw_string` is total on closed values. -/
theorem rawString_total_closed {v : Value} (hc : Closed v) : ∃ t, rawString v = .ok t :=
  rawString_closed v hc

/-- The panic is real for non-closed data: JSON text of a hand-built layer list. -/
example : jsonOf (.seq [.vl [.null]]) = .error (.panic .jsonVl) := by rfl

/-! ### 4. Pieces concatenate in order -/

/-- The text of one piece of a token slice: resolve the token (with its own copy of the resolve
state), interpolate while the result is an unparsed string, then `sliceFinish` (render a
container fully, take `raw_string`). -/
def pieceText (n : Nat) (root : Mapping) (t : Token) (st : RState) : R Str :=
  match tokResolve n root t st with
  | .error e => .error e
  | .ok (v, st') =>
    match strLoop n root v st' with
    | .error e => .error e
    | .ok (v', st'') => sliceFinish n root v' st''

/-- **Unfolding of `interpolate_token_slice`.** The text of `t :: ts` is the text of `t`
followed by the text of `ts`; both are computed from the *same* incoming state `st` (each piece
works on its own copy), and an error in `t` wins over an error in `ts`. -/
theorem slice_step (n : Nat) (root : Mapping) (t : Token) (ts : List Token) (st : RState) :
    slice (n+1) root (t :: ts) st =
      match pieceText n root t st with
      | .error e => .error e
      | .ok s =>
        match slice n root ts st with
        | .error e => .error e
        | .ok s' => .ok (s ++ s') := by
  rw [Reclass.slice_cons]
  unfold pieceText
  rcases tokResolve n root t st with _ | ⟨v, st1⟩
  · rfl
  dsimp only
  rcases strLoop n root v st1 with _ | ⟨_, _⟩ <;> rfl

theorem slice_nil (n : Nat) (root : Mapping) (st : RState) : slice (n+1) root [] st = .ok [] := rfl

/-- `Pieces root st n ts texts`: `texts` are the texts of the pieces `ts`, in order, the `i`-th
computed with fuel `n-1-i` from the state `st`. -/
inductive Pieces (root : Mapping) (st : RState) : Nat → List Token → List Str → Prop
  | nil (n : Nat) : Pieces root st (n+1) [] []
  | cons {n : Nat} {t : Token} {ts : List Token} {x : Str} {xs : List Str} :
      pieceText n root t st = .ok x → Pieces root st n ts xs →
      Pieces root st (n+1) (t :: ts) (x :: xs)

theorem Pieces.length_eq {root : Mapping} {st : RState} {n : Nat} {ts : List Token}
    {xs : List Str} (h : Pieces root st n ts xs) : xs.length = ts.length := by
  induction h with
  | nil => rfl
  | cons _ _ ih => simp [ih]

/-- **A mixed string is the concatenation of its pieces, in order.** `slice` succeeds with `s`
exactly when every piece has a text and `s` is these texts joined in order. -/
theorem slice_eq_concat {n : Nat} {root : Mapping} {ts : List Token} {st : RState} {s : Str} :
    slice n root ts st = .ok s ↔ ∃ texts, Pieces root st n ts texts ∧ s = texts.flatten := by
  induction n generalizing ts s with
  | zero =>
    constructor
    · intro h; cases h
    · rintro ⟨texts, hp, _⟩; cases hp
  | succ n ih =>
    cases ts with
    | nil =>
      constructor
      · intro h; cases h; exact ⟨[], Pieces.nil n, rfl⟩
      · rintro ⟨texts, hp, rfl⟩; cases hp; rfl
    | cons t ts =>
      rw [slice_step]
      constructor
      · intro h
        split at h
        · cases h
        · next x h1 =>
          split at h
          · cases h
          · next s' h2 =>
            cases h
            obtain ⟨xs, hp, rfl⟩ := ih.1 h2
            exact ⟨x :: xs, Pieces.cons h1 hp, rfl⟩
      · rintro ⟨texts, hp, rfl⟩
        cases hp with
        | cons h1 hp' => rw [h1, ih.2 ⟨_, hp', rfl⟩]; rfl

/-- The first failing piece decides the error. -/
theorem slice_error_first {n : Nat} {root : Mapping} {t : Token} {ts : List Token} {st : RState}
    {e : Err} (h : pieceText n root t st = .error e) : slice (n+1) root (t :: ts) st = .error e := by
  rw [slice_step, h]

theorem pieceText_fuel_mono_le {n m : Nat} (hle : n ≤ m) {root : Mapping} {t : Token} {st : RState}
    {x : Str} (h : pieceText n root t st = .ok x) : pieceText m root t st = .ok x := by
  unfold pieceText at h ⊢
  split at h
  · cases h
  · next v st1 h1 =>
    rw [tokResolve_fuel_mono_le hle root t st h1 (by simp)]
    dsimp only
    split at h
    · cases h
    · next v' st2 h2 =>
      rw [strLoop_fuel_mono_le hle root v st1 h2 (by simp)]
      exact sliceFinish_fuel_mono_le hle root v' st2 h (by simp)

/-- `PiecesAt n root st ts texts`: `texts` are the texts of the pieces `ts`, in order, every one
computed by `pieceText` with the same fuel `n` from the same state `st`. -/
inductive PiecesAt (n : Nat) (root : Mapping) (st : RState) : List Token → List Str → Prop
  | nil : PiecesAt n root st [] []
  | cons {t : Token} {ts : List Token} {x : Str} {xs : List Str} :
      pieceText n root t st = .ok x → PiecesAt n root st ts xs →
      PiecesAt n root st (t :: ts) (x :: xs)

/-- **Concatenation, with one fuel for all pieces.** If `slice` succeeds with `s` then `s` is
the concatenation, in order, of the texts of the pieces, each computed by `pieceText` from the
same state and with the same fuel. -/
theorem slice_eq_concat_uniform {n : Nat} {root : Mapping} {ts : List Token} {st : RState}
    {s : Str} (h : slice n root ts st = .ok s) :
    ∃ texts, PiecesAt n root st ts texts ∧ s = texts.flatten := by
  obtain ⟨texts, hp, hs⟩ := slice_eq_concat.1 h
  refine ⟨texts, ?_, hs⟩
  clear hs h
  suffices ∀ k, n ≤ k → PiecesAt k root st ts texts from this n (Nat.le_refl _)
  induction hp with
  | nil => intro k _; exact PiecesAt.nil
  | cons h1 _ ih =>
    intro k hk
    exact PiecesAt.cons (pieceText_fuel_mono_le (by omega) h1) (ih k (by omega))

/-! ### 5. Literal pieces, combined tokens -/

/-- **A literal piece contributes its own text**, unchanged. -/
theorem literal_piece_text (n : Nat) (root : Mapping) (s : Str) (st : RState) :
    pieceText (n+1) root (.lit s) st = .ok s := by
  simp [pieceText, tokResolve, strLoop, sliceFinish, Value.isStr, Value.isMap, Value.isSeq, rawString]

/-- **A combined token renders to a literal string**: the concatenated text of its pieces,
and the caller's resolve state is left as it was. -/
theorem combined_renders_literal (n : Nat) (root : Mapping) (ts : List Token) (st : RState) :
    tokRender (n+2) root (.combined ts) st =
      match slice n root ts st with
      | .error e => .error e
      | .ok s => .ok (.lit s, st) := by
  simp only [tokRender, tokResolve]
  cases h : slice n root ts st with
  | error e => rfl
  | ok s => rfl

/-- The same as an implication (for any fuel). -/
theorem combined_renders_literal' {n : Nat} {root : Mapping} {ts : List Token} {st st' : RState}
    {v : Value} (h : tokRender n root (.combined ts) st = .ok (v, st')) :
    ∃ s, v = .lit s ∧ st' = st ∧ slice (n-2) root ts st = .ok s := by
  match n, h with
  | 0, h => cases h
  | 1, h => cases h
  | n+2, h =>
    rw [combined_renders_literal] at h
    split at h
    · cases h
    · next s h1 => cases h; exact ⟨s, rfl, rfl, h1⟩

/-- **Headline.** A string that parses to several pieces (text and references mixed) renders to
the literal string made of the concatenated piece texts (`slice_eq_concat` says what these
are); the resolve state of the caller is unchanged; a failing piece fails the render. -/
theorem mixed_string_renders_concat (n : Nat) (root : Mapping) (s : Str) (ts : List Token)
    (st : RState) (hp : Token.parse s = .ok (some (.combined ts))) :
    interp (n+3) root (.str s) st =
      match slice n root ts st with
      | .error e => .error e
      | .ok t => .ok (.lit t, st) := by
  simp only [interp, hp]
  exact combined_renders_literal n root ts st

/-- A string without any reference marker renders to itself. -/
theorem plain_string_renders_itself (n : Nat) (root : Mapping) (s : Str) (st : RState)
    (h : Token.parse s = .ok none) : interp (n+1) root (.str s) st = .ok (.lit s, st) := by
  simp [interp, h]

/-! ### 6. The referenced value is fully rendered before its text is taken -/

/-- After `Token::resolve` and the `while v.is_string()` loop the piece value is not an
unparsed string. -/
theorem piece_value_not_str {n : Nat} {root : Mapping} {v v' : Value} {st st' : RState}
    (h : strLoop n root v st = .ok (v', st')) : ∀ s, v' ≠ .str s := by
  intro s hs
  subst hs
  cases strLoop_not_str n root v st _ st' h

/-- **The text of a piece is the text of plain data.** For well-formed parameters, whenever a
piece has a text `s`, there is a *closed* value `w` (no `${…}` left anywhere inside, no layer
list) with `raw_string w = s`; `w` is the piece value itself if that is a scalar, and the
interpolated and flattened piece value if it is a mapping or a sequence. -/
theorem piece_value_closed {n : Nat} {root : Mapping} {t : Token} {st st1 st2 : RState}
    {v v' : Value} {s : Str} (hr : WF root.toValue)
    (h1 : tokResolve n root t st = .ok (v, st1)) (h2 : strLoop n root v st1 = .ok (v', st2))
    (h3 : sliceFinish n root v' st2 = .ok s) :
    ∃ w, Closed w ∧ WF w ∧ rawString w = .ok s ∧
      ((v'.isMap || v'.isSeq) = false → w = v') ∧
      ((v'.isMap || v'.isSeq) = true → ∃ x st3, interp (n-1) root v' st2 = .ok (x, st3) ∧
        flat x st3 = .ok w) := by
  have hv : WF v := (interpInv n).tokResolve _ _ _ _ _ hr h1
  have hv' : WF v' := strLoop_wf n root v st1 v' st2 hr hv h2
  have hns := strLoop_not_str n root v st1 v' st2 h2
  cases n with
  | zero => cases h3
  | succ n =>
    rw [sliceFinish_succB] at h3
    split at h3
    · next hc =>
      obtain ⟨x, st3, h4, h3⟩ := bind2_ok.1 h3
      obtain ⟨w, h5, h3⟩ := bind1_ok.1 h3
      obtain ⟨w', h5', hcw, hww⟩ := flat_after_interp_ok (st2 := st3) hr hv' h4
      cases h5.symm.trans h5'
      refine ⟨w, hcw, hww, h3, fun hf => ?_, fun _ => ⟨x, st3, h4, h5⟩⟩
      rw [hc] at hf; cases hf
    · next hc =>
      refine ⟨v', ?_, hv', h3, fun _ => rfl, fun hf => absurd hf hc⟩
      cases v' with
      | str _ => cases hns
      | vl _ => cases h3
      | map _ _ _ => exact absurd rfl hc
      | seq _ => exact absurd rfl hc
      | null | bool _ | num _ | lit _ => trivial

/-- If the piece value is a layer list (possible only for hand-built tokens/values), taking its
text is an ordinary error, never a panic. -/
theorem piece_vl_is_error (n : Nat) (root : Mapping) (l : List Value) (st : RState) :
    sliceFinish (n+1) root (.vl l) st = .error (.rawStringOf "Value::ValueList".toList) := by
  simp [sliceFinish, Value.isMap, Value.isSeq, rawString]

/-- **No layer list reaches JSON.** For well-formed parameters without nested layer lists,
`interpolate_token_slice` never hits the `todo!()` of the JSON conversion — nor any other
panic. -/
theorem slice_no_panic {n : Nat} {root : Mapping} {ts : List Token} {st : RState}
    (hr : WF root.toValue) (hn : NoNest root.toValue) :
    slice n root ts st ≠ .error (.panic .jsonVl) ∧ ∀ site, slice n root ts st ≠ .error (.panic site) := by
  have : ∀ site, slice n root ts st ≠ .error (.panic site) :=
    fun site h => (noPanicInv n).slice _ _ _ _ ⟨hr, hn⟩ h site rfl
  exact ⟨this _, this⟩

/-! ### Non-vacuity: concrete renders -/

/-- JSON text of the rendered parameters (kernel-evaluable check of concrete renders). -/
def renderJson (n : Nat) (m : Mapping) : Option Str :=
  match renderParamsF n m with
  | .ok out => (match jsonOf out.toValue with | .ok s => some s | .error _ => none)
  | .error _ => none

/-- `l: [1, 2]`, `s: "x${l}"` ⇒ `s` is `x[1,2]` (compact JSON, integers stay integers). -/
example : renderJson 60
    ⟨[(.str "l".toList, .seq [.num (.int 1), .num (.int 2)]),
      (.str "s".toList, .str "x${l}".toList)], [], []⟩ =
    some "{\"l\":[1,2],\"s\":\"x[1,2]\"}".toList := by
  -- the kernel evaluates `String.toList` of a literal in quadratic time; this reads it off
  conv => rhs; rw [String.toList_ofList]
  decide +kernel

/-- Text, number, boolean and null pieces in order: `"${a}-${b}-${c}-${d}!"`. -/
example : renderJson 60
    ⟨[(.str "a".toList, .str "foo".toList), (.str "b".toList, .num (.int 42)),
      (.str "c".toList, .bool true), (.str "d".toList, .null),
      (.str "s".toList, .str "${a}-${b}-${c}-${d}!".toList)], [], []⟩ =
    some "{\"a\":\"foo\",\"b\":42,\"c\":true,\"d\":null,\"s\":\"foo-42-True-None!\"}".toList := by
  conv => rhs; rw [String.toList_ofList]
  decide +kernel

/-- A reference inside the embedded container is resolved before the text is taken, and keys of
the embedded mapping come out sorted (`BTreeMap`): `m: {z: ${a}, b: 1}`, `s: "<${m}>"`. -/
example : renderJson 80
    ⟨[(.str "a".toList, .num (.int 7)),
      (.str "m".toList, .map [(.str "z".toList, .str "${a}".toList),
                               (.str "b".toList, .num (.int 1))] [] []),
      (.str "s".toList, .str "<${m}>".toList)], [], []⟩ =
    some "{\"a\":7,\"m\":{\"b\":1,\"z\":7},\"s\":\"<{\\\"b\\\":1,\\\"z\\\":7}>\"}".toList := by
  conv => rhs; rw [String.toList_ofList]
  decide +kernel

/-- The hypothesis of `mixed_string_renders_concat` is satisfiable: `x${l}` parses to a literal
piece followed by a reference piece. -/
example : Token.parse "x${l}".toList =
    .ok (some (.combined [.lit "x".toList, .ref [.lit "l".toList]])) := by decide +kernel

/-- The `Pieces` relation is inhabited: two literal pieces. -/
example : Pieces {} {} 3 [.lit "ab".toList, .lit "c".toList] ["ab".toList, "c".toList] :=
  Pieces.cons (literal_piece_text 1 {} _ {}) (Pieces.cons (literal_piece_text 0 {} _ {}) (Pieces.nil 0))

example : slice 3 {} [.lit "ab".toList, .lit "c".toList] {} = .ok "abc".toList := by
  decide +kernel

end C05
end Reclass
