/-
  C09c — Constant keys: marker-only keys (`"="`, `"~"`) and "same value" constant writes
  (`Value::strip_prefix` / `Mapping::insert_impl`, `src/types/mapping.rs`):
  * a key that consists of the marker only must still be stripped (to the EMPTY key) and the
    marker must still count — an implementation that only strips when something follows the
    marker ("len > 1") would store the literal key `"="` and never protect `""`;
  * the constant marking of `=k` must not depend on the value being different from the one
    already stored.
-/
import Reclass.Props.C09
import Reclass.Lemmas.DecEq
namespace Reclass
namespace C09

abbrev emptyKey : Key := .str []

/-! ### (a) `stripPrefix` on marker-only and other very short keys -/

/-- The one-character key `"="` strips to the EMPTY key with the constant marker; `"~"` strips
to the empty key with the override marker; the empty key has no marker and is unchanged; a
one-character key that is not a marker is unchanged and has no marker. -/
theorem stripPrefix_lone_const :
    (Key.str ['=']).stripPrefix = (.str [], some .const) ∧
    (Key.str ['~']).stripPrefix = (.str [], some .override) ∧
    (Key.str []).stripPrefix = (.str [], none) ∧
    (∀ c : Char, c ≠ '=' → c ≠ '~' → (Key.str [c]).stripPrefix = (.str [c], none)) :=
  ⟨stripPrefix_const [], stripPrefix_override [], stripPrefix_str_nil,
   fun _ h1 h2 => stripPrefix_str_plain [] h1 h2⟩

/-- Converse direction for one-character keys: the result of stripping `[c]` is the empty key
exactly when `c` is one of the two markers (so nothing else can alias the empty name). -/
theorem stripPrefix_single_empty_iff (c : Char) :
    (Key.str [c]).stripPrefix.1 = .str [] ↔ (c = '=' ∨ c = '~') := by
  constructor
  · intro h
    by_cases h1 : c = '='
    · exact Or.inl h1
    · by_cases h2 : c = '~'
      · exact Or.inr h2
      · rw [stripPrefix_str_plain [] h1 h2] at h
        cases h
  · rintro (h | h)
    · subst h; rw [stripPrefix_const]
    · subst h; rw [stripPrefix_override]

/-- The three spellings that address the empty name: `""`, `"="`, `"~"`. -/
theorem strips_to_empty (k : Key) (hk : k = .str [] ∨ k = .str ['='] ∨ k = .str ['~']) :
    k.stripPrefix.1 = .str [] := by
  rcases hk with h | h | h <;> subst h
  · rfl
  · rw [stripPrefix_const]
  · rw [stripPrefix_override]

/-! ### (b) The lone `=` key creates and protects the empty name -/

/-- Inserting the key `"="` with any value into a mapping without an entry for `""`:
the insert succeeds; the new mapping is the old one with `("", v)` appended (so the value is
stored under the EMPTY key, and there is no entry for the literal key `"="` unless there was
one before); `""` is constant afterwards; and every later insert whose key is `""`, `"="` or
`"~"` — any value, any force flags — fails with the constant-key error that names `""`. -/
theorem lone_const_key_protects_empty_name (m : Mapping) (v : Value) (fc fo : Bool)
    (habs : lookup (.str []) m.es = none) :
    ∃ m', m.insertImpl (.str ['=']) v fc fo = .ok m' ∧
      m'.es = m.es ++ [(.str [], v)] ∧
      lookup (.str []) m'.es = some v ∧
      lookup (.str ['=']) m'.es = lookup (.str ['=']) m.es ∧
      Key.str [] ∈ m'.ck ∧
      ∀ (k : Key) (w : Value) (fc' fo' : Bool),
        (k = .str [] ∨ k = .str ['='] ∨ k = .str ['~']) →
        m'.insertImpl k w fc' fo' = .error (.constKey (.str [])) := by
  have hs : (Key.str ['=']).stripPrefix = (.str [], some .const) := stripPrefix_const []
  have hs1 : (Key.str ['=']).stripPrefix.1 = .str [] := by rw [hs]
  have habs' : lookup (Key.str ['=']).stripPrefix.1 m.es = none := by rw [hs1]; exact habs
  obtain ⟨m', hm', hck⟩ :=
    insert_marks_const m (.str ['=']) (.str []) v fc fo hs1 (Or.inl (by rw [hs])) (Or.inl habs)
  have hes : m'.es = m.es ++ [(.str [], v)] := by
    have h2 := insertImpl_absent (m := m) (k := .str ['=']) v fc fo habs'
    rw [hm'] at h2
    injection h2 with h2
    rw [h2, hs1]
  have hlk : lookup (.str []) m'.es = some v := by
    rw [hes]; exact lookup_append_single_self habs v
  refine ⟨m', hm', hes, hlk, ?_, hck, ?_⟩
  · rw [hes]; exact lookup_append_single_ne (by decide) m.es v
  · intro k w fc' fo' hk
    exact insert_const_rejects m' k (.str []) w v fc' fo' (strips_to_empty k hk) hlk hck

/-- The same through `Mapping.merge`: once `""` is constant and present, merging any mapping
that has an entry keyed `""`, `"="` or `"~"` fails with a constant-key error. -/
theorem lone_const_then_merge_fails (m other : Mapping) (v : Value) (fc fo : Bool)
    (habs : lookup (.str []) m.es = none) (k : Key) (w : Value)
    (hk : k = .str [] ∨ k = .str ['='] ∨ k = .str ['~']) (hmem : (k, w) ∈ other.es) :
    ∃ m', m.insertImpl (.str ['=']) v fc fo = .ok m' ∧
      ∃ k', m'.merge other = .error (.constKey k') := by
  obtain ⟨m', hm', _, hlk, _, hck, _⟩ := lone_const_key_protects_empty_name m v fc fo habs
  exact ⟨m', hm', const_then_write_fails_constKey m' other k (.str []) w v hck hlk hmem
    (strips_to_empty k hk)⟩

/-- … and when that entry is the only one of `other`, the error names exactly `""`. -/
theorem lone_const_then_merge_single_fails (m other : Mapping) (v : Value) (fc fo : Bool)
    (habs : lookup (.str []) m.es = none) (k : Key) (w : Value)
    (hk : k = .str [] ∨ k = .str ['='] ∨ k = .str ['~']) (hes : other.es = [(k, w)]) :
    ∃ m', m.insertImpl (.str ['=']) v fc fo = .ok m' ∧
      m'.merge other = .error (.constKey (.str [])) := by
  obtain ⟨m', hm', _, hlk, _, hck, _⟩ := lone_const_key_protects_empty_name m v fc fo habs
  exact ⟨m', hm', const_then_write_fails_single m' other k (.str []) w v hck hlk hes
    (strips_to_empty k hk)⟩

/-- The lone `~` key, for contrast: it also addresses the empty name, is recorded as an
override key, and does NOT make `""` constant (unless `forceConst`). -/
theorem lone_override_key_targets_empty_name (m : Mapping) (v : Value)
    (habs : lookup (.str []) m.es = none) (hnc : Key.str [] ∉ m.ck) :
    ∃ m', m.insertImpl (.str ['~']) v false false = .ok m' ∧
      m'.es = m.es ++ [(.str [], v)] ∧ Key.str [] ∈ m'.ok ∧ Key.str [] ∉ m'.ck := by
  have hs : (Key.str ['~']).stripPrefix = (.str [], some .override) := stripPrefix_override []
  have habs' : lookup (Key.str ['~']).stripPrefix.1 m.es = none := by rw [hs]; exact habs
  refine ⟨_, insertImpl_absent (m := m) (k := .str ['~']) v false false habs', ?_, ?_, ?_⟩
  · simp only [hs]
  · simp only [hs]
    exact mem_setInsert_self _ _
  · simp only [hs]
    simpa using hnc

/-! ### (c) The constant marking does not depend on the value -/

/-- For ANY existing, non-constant entry for `k` (whatever its current value `old`) and ANY
value `v` — in particular `v = old` — the insert of `=k` succeeds and `k` is constant
afterwards.  (`cs` is the text of `k`; the written key is `'=' :: cs`.) -/
theorem same_value_const_still_marks (m : Mapping) (cs : Str) (old v : Value) (fc fo : Bool)
    (_hl : lookup (.str cs) m.es = some old) (hnc : Key.str cs ∉ m.ck) :
    ∃ m', m.insertImpl (.str ('=' :: cs)) v fc fo = .ok m' ∧ Key.str cs ∈ m'.ck := by
  have hs : (Key.str ('=' :: cs)).stripPrefix = (.str cs, some .const) := stripPrefix_const cs
  exact insert_marks_const m (.str ('=' :: cs)) (.str cs) v fc fo (by rw [hs])
    (Or.inl (by rw [hs])) (Or.inr hnc)

/-- Post-condition form: whenever `insertImpl ("=k") v` succeeds — no assumption at
all on the previous entry or on `v` — `k` is in the constant set of the result. -/
theorem same_value_const_still_marks_of_ok (m m' : Mapping) (cs : Str) (v : Value) (fc fo : Bool)
    (h : m.insertImpl (.str ('=' :: cs)) v fc fo = .ok m') : Key.str cs ∈ m'.ck := by
  have hs : (Key.str ('=' :: cs)).stripPrefix = (.str cs, some .const) := stripPrefix_const cs
  have := insert_ok_marks_const m m' (.str ('=' :: cs)) v fc fo (Or.inl (by rw [hs])) h
  rw [hs] at this; exact this

/-- The instance that names the regression: the stored value IS `v` already. The write still
succeeds, still marks `k` constant, and the next write to `k` (plain, `=`, `~`) is rejected. -/
theorem same_value_const_then_write_fails (m : Mapping) (cs : Str) (v : Value)
    (hl : lookup (.str cs) m.es = some v) (hnc : Key.str cs ∉ m.ck) :
    ∃ m', m.insertImpl (.str ('=' :: cs)) v false false = .ok m' ∧ Key.str cs ∈ m'.ck ∧
      ∀ (k : Key) (w : Value) (fc fo : Bool), k.stripPrefix.1 = .str cs →
        m'.insertImpl k w fc fo = .error (.constKey (.str cs)) := by
  obtain ⟨m', hm', hck⟩ := same_value_const_still_marks m cs v v false false hl hnc
  refine ⟨m', hm', hck, ?_⟩
  intro k w fc fo hk
  have hpres : Key.str cs ∈ m'.es.map Prod.fst :=
    insertImpl_keys_mono hm' (lookup_isSome_iff.1 (by simp [hl]))
  obtain ⟨w', hw'⟩ := Option.isSome_iff_exists.1 (lookup_isSome_iff.2 hpres)
  exact insert_const_rejects m' k (.str cs) w w' fc fo hk hw' hck

/-! ### Examples (kernel-checked) -/

private def s (x : String) : Str := x.toList
private def one : Value := .num (.int 1)
private def two : Value := .num (.int 2)

example : (Key.str (s "=")).stripPrefix = (.str [], some .const) := by decide +kernel
example : (Key.str (s "~")).stripPrefix = (.str [], some .override) := by decide +kernel
example : (Key.str (s "")).stripPrefix = (.str [], none) := by decide +kernel
example : (Key.str (s "a")).stripPrefix = (.str (s "a"), none) := by decide +kernel
-- only the FIRST marker is stripped
example : (Key.str (s "==")).stripPrefix = (.str (s "="), some .const) := by decide +kernel
example : (Key.str (s "~=")).stripPrefix = (.str (s "="), some .override) := by decide +kernel

/-- `{a: 1}`, nothing constant. -/
private def mA1 : Mapping := { es := [(.str (s "a"), one)] }

-- (b) `"=": 2` into `{a: 1}`: stored under "", "" constant, no literal "=" entry
example : ∃ m', mA1.insertImpl (.str (s "=")) two false false = .ok m' ∧
    (m'.es.map Prod.fst = [.str (s "a"), .str []]) ∧ m'.ck = [.str []] ∧ m'.ok = [] :=
  ⟨{ es := [(.str (s "a"), one), (.str [], two)], ck := [.str []] }, by decide +kernel⟩
example : lookup (.str []) mA1.es = none := by decide +kernel

/-- `{a: 1, "": 2}` with `""` constant — the result of the insert above. -/
private def mA2 : Mapping :=
  { es := [(.str (s "a"), one), (.str [], two)], ck := [.str []], ok := [] }

-- all three spellings are rejected afterwards, naming ""
example : mA2.insertImpl (.str (s "")) one false false = .error (.constKey (.str [])) := by decide +kernel
example : mA2.insertImpl (.str (s "=")) one false false = .error (.constKey (.str [])) := by decide +kernel
example : mA2.insertImpl (.str (s "~")) one false true = .error (.constKey (.str [])) := by decide +kernel
-- … also through merge
example : mA2.merge { es := [(.str (s "~"), one)] } = .error (.constKey (.str [])) := by decide +kernel
-- a different key is still writable
example : ∃ m', mA2.insertImpl (.str (s "a")) two false false = .ok m' := ⟨_, rfl⟩

-- (c) `=a: 1` into `{a: 1}` (same scalar): succeeds, `a` constant, next write fails
example : ∃ m', mA1.insertImpl (.str (s "=a")) one false false = .ok m' ∧
    m'.ck = [.str (s "a")] ∧
    m'.insertImpl (.str (s "a")) two false false = .error (.constKey (.str (s "a"))) ∧
    m'.insertImpl (.str (s "~a")) one false false = .error (.constKey (.str (s "a"))) :=
  ⟨{ es := [(.str (s "a"), .vl [one, one])], ck := [.str (s "a")] }, by decide +kernel⟩
-- hypotheses of `same_value_const_still_marks` are satisfiable with `old = v`
example : lookup (.str (s "a")) mA1.es = some one ∧ Key.str (s "a") ∉ mA1.ck := by
  decide +kernel

end C09
end Reclass
