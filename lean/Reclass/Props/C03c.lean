/-
  C03 (continued) — Empty path segments are ordinary segments.  `Token::resolve` splits the
  rendered path text with `str::split(':')` (`splitColon`) and looks every segment up in turn —
  *including empty ones*.  `${m:}` is therefore the path `["m", ""]`: it looks the empty-string
  key `""` up in `m`; it is NOT the same as `${m}`, and it never returns the mapping `m` itself.
  Likewise `${:a}` starts at the top-level key `""` and `${a::b}` passes through the key `""` of `a`.
-/
import Reclass.Props.C03
namespace Reclass
namespace C03

open Refs

/-! ### 1. The path splitter `str::split(':')` -/

/-- `split` never returns the empty list. -/
theorem split_nonempty (s : Str) : splitColon s ≠ [] := by
  induction s with
  | nil => simp [splitColon]
  | cons c cs ih =>
    simp only [splitColon]
    split
    · simp
    · split <;> simp

/-- … so it always has a first segment. -/
theorem split_cons_exists (s : Str) : ∃ seg segs, splitColon s = seg :: segs := by
  cases h : splitColon s with
  | nil => exact absurd h (split_nonempty s)
  | cons seg segs => exact ⟨seg, segs, rfl⟩

/-- **A path starting with `:` has an empty first segment.** -/
theorem split_leading_colon (s : Str) : splitColon (':' :: s) = [] :: splitColon s := by
  obtain ⟨seg, segs, h⟩ := split_cons_exists s
  simp [splitColon, h]

/-- An ordinary character extends the first segment. -/
theorem split_cons_other {c : Char} (hc : c ≠ ':') {s seg : Str} {segs : List Str}
    (h : splitColon s = seg :: segs) : splitColon (c :: s) = (c :: seg) :: segs := by
  simp [splitColon, h, hc]

/-- **Splitting distributes over a `:`.**  The segments of `a ++ ":" ++ b` are the segments of
`a` followed by the segments of `b` — whatever `a` and `b` are (empty, ending or starting with
`:`, …).  No segment is dropped or merged. -/
theorem split_append_colon (a b : Str) :
    splitColon (a ++ ':' :: b) = splitColon a ++ splitColon b := by
  induction a with
  | nil => rw [List.nil_append, split_leading_colon]; rfl
  | cons c a ih =>
    obtain ⟨seg, segs, h⟩ := split_cons_exists a
    rw [h, List.cons_append] at ih
    by_cases hc : c = ':'
    · subst hc
      rw [List.cons_append, split_leading_colon, split_leading_colon, ih, h]
      rfl
    · rw [List.cons_append, split_cons_other hc ih, split_cons_other hc h]
      rfl

/-- **A path ending in `:` has a final EMPTY segment.** -/
theorem split_trailing_colon (s : Str) : splitColon (s ++ [':']) = splitColon s ++ [[]] := by
  rw [split_append_colon]; rfl

/-- The last segment of a path ending in `:` is the empty string. -/
theorem split_last_of_trailing_colon (s : Str) : (splitColon (s ++ [':'])).getLast? = some [] := by
  rw [split_trailing_colon]; simp

/-- **`a::b` has an empty middle segment** (`a`, `b` free of `:`). -/
theorem split_double_colon {a b : Str} (ha : ':' ∉ a) (hb : ':' ∉ b) :
    splitColon (a ++ ':' :: ':' :: b) = [a, [], b] := by
  rw [split_append_colon, split_leading_colon, splitColon_of_not_mem ha, splitColon_of_not_mem hb]
  rfl

/-- `k:` splits into `k` and the empty segment (`k` free of `:`). -/
theorem split_key_colon {k : Str} (hk : ':' ∉ k) : splitColon (k ++ [':']) = [k, []] := by
  rw [split_trailing_colon, splitColon_of_not_mem hk]; rfl

/-- **The number of segments is one more than the number of `:` characters.** -/
theorem split_length (s : Str) : (splitColon s).length = s.count ':' + 1 := by
  induction s with
  | nil => rfl
  | cons c cs ih =>
    obtain ⟨seg, segs, h⟩ := split_cons_exists cs
    by_cases hc : c = ':'
    · subst hc
      rw [split_leading_colon, List.length_cons, ih, List.count_cons_self]
    · rw [split_cons_other hc h, List.count_cons_of_ne (by simpa using hc), ← ih, h]
      rfl

/-- No segment contains a `:`. -/
theorem split_segments_colon_free (s : Str) : ∀ seg ∈ splitColon s, ':' ∉ seg := by
  induction s with
  | nil => intro seg h; simp [splitColon] at h; simp [h]
  | cons c cs ih =>
    obtain ⟨seg0, segs, h⟩ := split_cons_exists cs
    by_cases hc : c = ':'
    · subst hc
      rw [split_leading_colon]
      intro seg hm
      rcases List.mem_cons.1 hm with rfl | hm
      · simp
      · exact ih seg hm
    · rw [split_cons_other hc h]
      rw [h] at ih
      intro seg hm
      rcases List.mem_cons.1 hm with rfl | hm
      · intro hmem
        rcases List.mem_cons.1 hmem with e | hmem
        · exact hc e.symm
        · exact ih seg0 (by simp) hmem
      · exact ih seg (List.mem_cons_of_mem _ hm)

/-- **Joining the segments with `:` gives back the path.** -/
theorem split_join (s : Str) : joinWith [':'] (splitColon s) = s := by
  induction s with
  | nil => rfl
  | cons c cs ih =>
    obtain ⟨seg, segs, h⟩ := split_cons_exists cs
    rw [h] at ih
    by_cases hc : c = ':'
    · subst hc
      rw [split_leading_colon, h]
      simp only [joinWith, List.nil_append, List.cons_append, ih]
    · rw [split_cons_other hc h]
      cases segs with
      | nil =>
        simp only [joinWith] at ih ⊢
        rw [ih]
      | cons s2 rest =>
        simp only [joinWith, List.cons_append] at ih ⊢
        rw [ih]

/-- Conversely, splitting the `:`-join of a non-empty list of `:`-free segments (empty segments
allowed, anywhere) gives back exactly these segments. -/
theorem join_split : ∀ (segs : List Str), segs ≠ [] → (∀ seg ∈ segs, ':' ∉ seg) →
    splitColon (joinWith [':'] segs) = segs
  | [], h, _ => absurd rfl h
  | [x], _, hx => by
    simp only [joinWith]
    exact splitColon_of_not_mem (hx x (by simp))
  | x :: y :: r, _, hx => by
    have e : joinWith [':'] (x :: y :: r) = x ++ ':' :: joinWith [':'] (y :: r) := by
      simp [joinWith]
    rw [e, split_append_colon, splitColon_of_not_mem (hx x (by simp)),
      join_split (y :: r) (by simp) (fun s hs => hx s (List.mem_cons_of_mem _ hs))]
    rfl

example : splitColon "a::b".toList = ["a".toList, [], "b".toList] := by decide
example : splitColon "m:".toList = ["m".toList, []] := by decide
example : splitColon ":a".toList = [[], "a".toList] := by decide
example : splitColon ":".toList = [[], []] := by decide
example : splitColon "a:b:".toList = ["a".toList, "b".toList, []] := by decide

/-! ### 2. An empty segment is looked up like any other key -/

/-- Walking one more segment: if the walk along `segs` ends at a raw mapping, the walk along
`segs ++ [key]` is the lookup of `key` (any text, also the empty one) in that mapping. -/
theorem rawPath_snoc : ∀ (segs : List Str) (v0 : Value) {es : List (Key × Value)} {ck ok : List Key}
    (key : Str), rawPath v0 segs = some (.map es ck ok) →
    rawPath v0 (segs ++ [key]) = lookup (.str key) es
  | [], v0, es, ck, ok, key, h => by
    cases h
    simp only [List.nil_append, rawPath]
    cases lookup (.str key) es <;> rfl
  | k :: ks, v0, es, ck, ok, key, h => by
    obtain ⟨es0, ck0, ok0, v', rfl, hl, h⟩ := rawPath_cons_some h
    simp only [List.cons_append, rawPath, hl]
    exact rawPath_snoc ks v' key h

/-- The lookup loop of `Token::resolve` along raw mappings: every segment that is found costs
one unit of fuel, leaves the state alone, and the loop goes on from the entry with what is left
of the path.  Empty segments are keys like any other. -/
theorem descend_raw_prefix {root : Mapping} {path : Str} (rest : List Str) :
    ∀ (segs : List Str) (n : Nat) (v0 v : Value) (st : RState), rawPath v0 segs = some v →
    descend (n + segs.length + 1) root v0 (segs ++ rest) st path =
      descend (n + 1) root v rest st path
  | [], n, v0, v, st, h => by cases h; rfl
  | k :: ks, n, v0, v, st, h => by
    obtain ⟨es0, ck0, ok0, v', rfl, hl, h⟩ := rawPath_cons_some h
    show descend ((n + ks.length + 1) + 1) root _ (k :: (ks ++ rest)) st path = _
    rw [descend_cons, interpStrOrVl_succ]
    simp only [hl]
    exact descend_raw_prefix rest ks n v' v st h

/-- The lookup loop of `Token::resolve` along raw mappings, constructively: it returns the value
found by iterated `IndexMap::get` and leaves the state alone.  (`Refs.descend_raw` is the
converse reading.) -/
theorem descend_raw_ok {root : Mapping} {path : Str} :
    ∀ (segs : List Str) (n : Nat) (v0 v : Value) (st : RState), rawPath v0 segs = some v →
    descend (n + segs.length + 1) root v0 segs st path = .ok (v, st) := by
  intro segs n v0 v st h
  have := descend_raw_prefix (root := root) (path := path) [] segs n v0 v st h
  rwa [List.append_nil, descend_nil] at this

/-- … and with the last segment absent from the mapping reached: the missing-key error naming
the whole reference text `path` and that last segment `key`. -/
theorem descend_raw_missing {root : Mapping} {path : Str} {key : Str} :
    ∀ (segs : List Str) (n : Nat) (v0 : Value) {es : List (Key × Value)} {ck ok : List Key}
      (st : RState), rawPath v0 segs = some (.map es ck ok) → lookup (.str key) es = none →
    descend (n + segs.length + 2) root v0 (segs ++ [key]) st path =
      .error (.missingKey path key st.curKey) := by
  intro segs n v0 es ck ok st h hl
  rw [show n + segs.length + 2 = (n + 1) + segs.length + 1 by omega,
    descend_raw_prefix [key] segs (n + 1) v0 _ st h, descend_cons, interpStrOrVl_succ]
  simp only [hl]

/-- The segments of `p ++ ":"` are those of `p` followed by the empty segment. -/
theorem split_trailing_colon_cons {p k0 : Str} {segs : List Str} (h : splitColon p = k0 :: segs) :
    splitColon (p ++ [':']) = k0 :: (segs ++ [[]]) := by
  rw [split_trailing_colon, h]; rfl

theorem resolve_descend {j : Nat} {root : Mapping} {parts : List Token} {path k0 : Str}
    {segs : List Str} {v0 : Value} {st : RState} (hd : st.depth + 1 ≤ maxDepth)
    (hs : slice j root parts { st with depth := st.depth + 1 } = .ok path)
    (hseen : path ∉ st.seen) (hsplit : splitColon path = k0 :: segs)
    (hget : root.get (.str k0) = some v0) (fuel : Nat) (hf : j ≤ fuel) :
    tokResolve (fuel+1) root (.ref parts) st =
      bind2 (descend fuel root v0 segs { st with depth := st.depth + 1, seen := path :: st.seen }
        path) (fun v st3 => finalLoop fuel root v st3) := by
  have hd' : ¬ (st.depth + 1 > maxDepth) := by omega
  have hs' := slice_fuel_mono_le hf root parts _ hs (by simp)
  simp only [tokResolve_refB, hd', if_false, hs', bind1, hseen, hsplit, hget]

theorem resolve_raw_ok {j : Nat} {root : Mapping} {parts : List Token} {path k0 : Str}
    {segs : List Str} {v0 vt : Value} {st : RState} (hd : st.depth + 1 ≤ maxDepth)
    (hs : slice j root parts { st with depth := st.depth + 1 } = .ok path)
    (hseen : path ∉ st.seen) (hsplit : splitColon path = k0 :: segs)
    (hget : root.get (.str k0) = some v0) (hraw : rawPath v0 segs = some vt)
    (fuel : Nat) (hf : j + segs.length + 1 ≤ fuel) :
    tokResolve (fuel+1) root (.ref parts) st =
      finalLoop fuel root vt { st with depth := st.depth + 1, seen := path :: st.seen } := by
  rw [resolve_descend hd hs hseen hsplit hget fuel (by omega),
    descend_fuel_mono_le hf root v0 _ _ _ (descend_raw_ok segs j v0 vt _ hraw) (by simp)]
  rfl

theorem resolve_raw_missing {j : Nat} {root : Mapping} {parts : List Token} {path k0 key : Str}
    {segs : List Str} {v0 : Value} {es : List (Key × Value)} {ck ok : List Key} {st : RState}
    (hd : st.depth + 1 ≤ maxDepth)
    (hs : slice j root parts { st with depth := st.depth + 1 } = .ok path)
    (hseen : path ∉ st.seen) (hsplit : splitColon path = k0 :: (segs ++ [key]))
    (hget : root.get (.str k0) = some v0) (hraw : rawPath v0 segs = some (.map es ck ok))
    (hl : lookup (.str key) es = none) (fuel : Nat) (hf : j + segs.length + 2 ≤ fuel) :
    tokResolve (fuel+1) root (.ref parts) st = .error (.missingKey path key st.curKey) := by
  rw [resolve_descend hd hs hseen hsplit hget fuel (by omega),
    descend_fuel_mono_le hf root v0 _ _ _ (descend_raw_missing segs j v0 _ hraw hl) (by simp)]
  rfl

/-- **`${p:}` resolves to the entry `""` of the mapping at `p`** (exact equation, no
well-formedness needed).  Let the path pieces render — in the state `Token::resolve` hands them —
to the text `p ++ ":"`, not seen before and below the depth limit; let `p = k0:s1:…:sm` lead
through raw mappings to the mapping `es`, and let `es` hold `vt` under the EMPTY key.  Then, for
all sufficiently large fuel, `Token::resolve` returns what its trailing loop makes of `vt` —
the mapping `es` itself is not returned. -/
theorem trailing_colon_resolve {j : Nat} {root : Mapping} {parts : List Token} {p k0 : Str}
    {segs : List Str} {v0 vt : Value} {es : List (Key × Value)} {ck ok : List Key} {st : RState}
    (hd : st.depth + 1 ≤ maxDepth)
    (hs : slice j root parts { st with depth := st.depth + 1 } = .ok (p ++ [':']))
    (hseen : p ++ [':'] ∉ st.seen) (hsplit : splitColon p = k0 :: segs)
    (hget : root.get (.str k0) = some v0) (hraw : rawPath v0 segs = some (.map es ck ok))
    (hl : lookup (.str []) es = some vt) (fuel : Nat) (hf : j + segs.length + 2 ≤ fuel) :
    tokResolve (fuel+1) root (.ref parts) st =
      finalLoop fuel root vt { st with depth := st.depth + 1, seen := (p ++ [':']) :: st.seen } :=
  resolve_raw_ok hd hs hseen (split_trailing_colon_cons hsplit) hget
    (by rw [rawPath_snoc segs v0 [] hraw, hl]) fuel (by rw [List.length_append]; exact hf)

/-- **`${p:}` with no entry `""` is a missing-key error naming the empty key.**  Same situation,
but the mapping reached at `p` has no entry under the empty key: `Token::resolve` fails with the
lookup error that carries the reference text `p ++ ":"`, the missing key `""` and the parameter
being rendered — for all sufficiently large fuel.  It does not fall back to the mapping at `p`. -/
theorem trailing_colon_missing {j : Nat} {root : Mapping} {parts : List Token} {p k0 : Str}
    {segs : List Str} {v0 : Value} {es : List (Key × Value)} {ck ok : List Key} {st : RState}
    (hd : st.depth + 1 ≤ maxDepth)
    (hs : slice j root parts { st with depth := st.depth + 1 } = .ok (p ++ [':']))
    (hseen : p ++ [':'] ∉ st.seen) (hsplit : splitColon p = k0 :: segs)
    (hget : root.get (.str k0) = some v0) (hraw : rawPath v0 segs = some (.map es ck ok))
    (hl : lookup (.str []) es = none) (fuel : Nat) (hf : j + segs.length + 3 ≤ fuel) :
    tokResolve fuel root (.ref parts) st = .error (.missingKey (p ++ [':']) [] st.curKey) := by
  obtain ⟨fuel, rfl⟩ : ∃ f, fuel = f + 1 := ⟨fuel - 1, by omega⟩
  exact resolve_raw_missing hd hs hseen (split_trailing_colon_cons hsplit) hget hraw hl fuel
    (by omega)

/-- **`${p:}` renders to what the entry `""` renders to** (corollary of `whole_ref_path`).  With
well-formed parameters, if the path text is `p ++ ":"` and the mapping at `p` holds `vt` under the
empty key, then whatever `Token::render` returns for the reference is — up to flag sets — what
`Value::interpolate` returns for `vt`, from any state and with any fuel. -/
theorem trailing_colon_present {n m j : Nat} {root : Mapping} {parts : List Token} {p k0 : Str}
    {segs : List Str} {v0 vt r r0 : Value} {es : List (Key × Value)} {ck ok : List Key}
    {st st' sp st0 st0' : RState}
    (hw : WF root.toValue) (hpath : slice j root parts sp = .ok (p ++ [':']))
    (hsplit : splitColon p = k0 :: segs) (hget : root.get (.str k0) = some v0)
    (hraw : rawPath v0 segs = some (.map es ck ok)) (hl : lookup (.str []) es = some vt)
    (h : tokRender n root (.ref parts) st = .ok (r, st'))
    (h0 : interp m root vt st0 = .ok (r0, st0')) : erase r = erase r0 :=
  whole_ref_path hw hpath (split_trailing_colon_cons hsplit) hget
    (by rw [rawPath_snoc segs v0 [] hraw, hl]) h h0

/-- **A trailing empty segment looks up the empty key.**  The reference `${k:}` — path text
`k ++ ":"`, `k` free of `:` — where the (well-formed) parameters hold the plain mapping
`mm = {es}` under `k`:

* if `mm` has an entry `vt` under the empty-string key `""`, then `Token::resolve` returns what its
  trailing loop makes of `vt`, and whatever `Token::render` returns equals, up to flag sets, what
  `vt` itself interpolates to (from any state, with any fuel);
* if `mm` has no entry `""`, the reference fails with the missing-key error naming the reference
  text `k:`, the EMPTY key and the parameter being rendered.

In neither case is the result the mapping `mm` itself (that is what `${k}` returns). -/
theorem trailing_empty_segment_looks_up_empty_key {j : Nat} {root : Mapping} {parts : List Token}
    {k : Str} {es : List (Key × Value)} {ck ok : List Key} {st : RState}
    (hw : WF root.toValue) (hcolon : ':' ∉ k)
    (hd : st.depth + 1 ≤ maxDepth)
    (hs : slice j root parts { st with depth := st.depth + 1 } = .ok (k ++ [':']))
    (hseen : k ++ [':'] ∉ st.seen)
    (hget : root.get (.str k) = some (.map es ck ok)) :
    (∀ vt, lookup (.str []) es = some vt →
      (∀ fuel, j + 2 ≤ fuel → tokResolve (fuel+1) root (.ref parts) st =
        finalLoop fuel root vt { st with depth := st.depth + 1, seen := (k ++ [':']) :: st.seen }) ∧
      (∀ n m r r0 st' st0 st0', tokRender n root (.ref parts) st = .ok (r, st') →
        interp m root vt st0 = .ok (r0, st0') → erase r = erase r0)) ∧
    (lookup (.str []) es = none → ∀ fuel, j + 3 ≤ fuel →
      tokResolve fuel root (.ref parts) st = .error (.missingKey (k ++ [':']) [] st.curKey)) := by
  have hsplit : splitColon k = k :: [] := splitColon_of_not_mem hcolon
  refine ⟨fun vt hl => ⟨fun fuel hf => ?_, fun n m r r0 st' st0 st0' h h0 => ?_⟩, fun hl fuel hf => ?_⟩
  · exact trailing_colon_resolve hd hs hseen hsplit hget rfl hl fuel (by simpa using hf)
  · exact trailing_colon_present hw hs hsplit hget rfl hl h h0
  · exact trailing_colon_missing hd hs hseen hsplit hget rfl hl fuel (by simpa using hf)

/-! ### Non-vacuity -/

/-- `{m: {"": 1, big: 2}, u: "${m:}"}`. -/
def demoEmptyKey : Mapping :=
  ⟨[(.str "m".toList, .map [(.str [], .num (.int 1)), (.str "big".toList, .num (.int 2))] [] []),
    (.str "u".toList, .str "${m:}".toList)], [], []⟩

/-- `{m: {a: 1}, u: "${m:}"}`. -/
def demoNoEmptyKey : Mapping :=
  ⟨[(.str "m".toList, .map [(.str "a".toList, .num (.int 1))] [] []),
    (.str "u".toList, .str "${m:}".toList)], [], []⟩

/-- `{m: {"": 5}, v: "", u: "${m:${v}}"}`. -/
def demoEmptyNested : Mapping :=
  ⟨[(.str "m".toList, .map [(.str [], .num (.int 5))] [] []),
    (.str "v".toList, .str []),
    (.str "u".toList, .str "${m:${v}}".toList)], [], []⟩

/-- `${m:}` parses to a reference whose single path piece is the text `m:`. -/
example : parseText "${m:}".toList = some "R[L(m:)]".toList := by
  rw [String.toList_ofList, String.toList_ofList]; decide +kernel
example : parseText "${m:${v}}".toList = some "R[L(m:)R[L(v)]]".toList := by
  rw [String.toList_ofList, String.toList_ofList]; decide +kernel

/-- `u` is the value at the empty key of `m` (the number 1), not `m`. -/
example : C07.renderJson 50 demoEmptyKey =
    some "{\"m\":{\"\":1,\"big\":2},\"u\":1}".toList := by
  rw [String.toList_ofList]; decide +kernel

/-- No entry `""`: the missing-key error names the reference text `m:`, the EMPTY key, and the
parameter `u`. -/
example : missingKeyOf (renderParamsF 50 demoNoEmptyKey) =
    some ("m:".toList, [], "u".toList) := by decide +kernel

/-- … whereas `${m}` (no trailing `:`) is the mapping. -/
example : C07.renderJson 50
    ⟨[(.str "m".toList, .map [(.str "a".toList, .num (.int 1))] [] []),
      (.str "u".toList, .str "${m}".toList)], [], []⟩ =
    some "{\"m\":{\"a\":1},\"u\":{\"a\":1}}".toList := by
  conv => rhs; rw [String.toList_ofList]
  decide +kernel

/-- The empty segment may come from a nested reference that renders to the empty text. -/
example : C07.renderJson 50 demoEmptyNested =
    some "{\"m\":{\"\":5},\"u\":5,\"v\":\"\"}".toList := by
  rw [String.toList_ofList]; decide +kernel

/-- Leading and middle empty segments: `${:a}` starts at the top-level key `""`, `${m::x}` passes
through the key `""` of `m`. -/
example : C07.renderJson 50
    ⟨[(.str [], .map [(.str "a".toList, .num (.int 7))] [] []),
      (.str "m".toList, .map [(.str [], .map [(.str "x".toList, .num (.int 8))] [] [])] [] []),
      (.str "u".toList, .str "${:a}".toList),
      (.str "w".toList, .str "${m::x}".toList)], [], []⟩ =
    some "{\"\":{\"a\":7},\"m\":{\"\":{\"x\":8}},\"u\":7,\"w\":8}".toList := by
  conv => rhs; rw [String.toList_ofList]
  decide +kernel

theorem demoEmptyKey_wf : WF demoEmptyKey.toValue := by decide +kernel

theorem demoNoEmptyKey_wf : WF demoNoEmptyKey.toValue := by decide +kernel

/-- All hypotheses of `trailing_empty_segment_looks_up_empty_key` hold for `${m:}` in
`demoEmptyKey`; the present-case conclusion: whatever the reference renders to is the number 1. -/
example {n : Nat} {r : Value} {st' : RState}
    (h : tokRender n demoEmptyKey (.ref [.lit "m:".toList]) {} = .ok (r, st')) :
    erase r = .num (.int 1) :=
  ((trailing_empty_segment_looks_up_empty_key (j := 2) (k := "m".toList) (st := {})
      demoEmptyKey_wf (by decide) (by decide) (slice_single_lit 0 _ _ _) (by simp) (by rfl)).1
    (.num (.int 1)) (by rfl)).2 n 1 r (.num (.int 1)) st' {} {} h (by rfl)

/-- … and the absent-case conclusion for `demoNoEmptyKey`, at every fuel ≥ 5. -/
example (fuel : Nat) (hf : 5 ≤ fuel) :
    tokResolve fuel demoNoEmptyKey (.ref [.lit "m:".toList]) {} =
      .error (.missingKey "m:".toList [] []) :=
  (trailing_empty_segment_looks_up_empty_key (j := 2) (k := "m".toList) (st := {})
      demoNoEmptyKey_wf (by decide) (by decide) (slice_single_lit 0 _ _ _) (by simp) (by rfl)).2
    (by rfl) fuel hf

end C03
end Reclass
