/-
  C03 (continued) — A nested reference may supply SEVERAL path segments.  `Token::resolve`
  (`src/refs/mod.rs`) first renders ALL pieces of the reference path to ONE string
  (`interpolate_token_slice`, model: `slice`) and only then splits it at `:` (`str::split(':')`,
  model: `splitColon`), so a `:` that comes out of a nested reference separates segments exactly
  like one written in the reference itself: `${sizes:${selector}}` with `selector = "tier:web"` is
  the path `["sizes", "tier", "web"]` — not `["sizes", "tier:web"]`.
-/
import Reclass.Props.C03c
import Reclass.Props.C05
namespace Reclass
namespace C03

open Refs
open C05 (Pieces PiecesAt pieceText)

/-! ### 1. The path is split AFTER all its pieces have been rendered and concatenated -/

/-- What `Token::resolve` does once it has the list of path segments of the reference text
`path`: look the first one up in the parameters, walk the others (`descend`), then the trailing
`while v.is_string() || v.is_value_list()` loop. -/
def walkSegments (fuel : Nat) (root : Mapping) (path : Str) (st2 : RState) :
    List Str → R (Value × RState)
  | [] => .error (.panic .splitEmpty)
  | k0 :: segs =>
    match root.get (.str k0) with
    | none => .error (.missingKey path k0 st2.curKey)
    | some v0 =>
      match descend fuel root v0 segs st2 path with
      | .error e => .error e
      | .ok (v, st3) => finalLoop fuel root v st3

/-- **`Token::resolve` walks `split(':')` of the rendered path text.**  If the pieces of the
reference path render (in the state `Token::resolve` hands them) to the single text `path`, not
seen before and below the depth limit, the reference is resolved by walking the segments
`splitColon path` — whatever pieces the characters of `path` came from. -/
theorem resolve_walks_split {n : Nat} {root : Mapping} {parts : List Token} {st : RState}
    {path : Str} (hd : st.depth + 1 ≤ maxDepth)
    (hs : slice n root parts { st with depth := st.depth + 1 } = .ok path)
    (hseen : path ∉ st.seen) :
    tokResolve (n+1) root (.ref parts) st =
      walkSegments n root path { st with depth := st.depth + 1, seen := path :: st.seen }
        (splitColon path) := by
  rw [tokResolve_ref]
  have hd' : ¬ (st.depth + 1 > maxDepth) := by omega
  simp only [hd', if_false, hs, hseen]
  cases splitColon path <;> rfl

/-- Texts computed with one common fuel are texts in the sense of `C05.Pieces` for every
sufficiently large fuel. -/
theorem pieces_of_piecesAt {j : Nat} {root : Mapping} {st : RState} {ts : List Token}
    {texts : List Str} (h : PiecesAt j root st ts texts) :
    ∀ k, j + ts.length < k → Pieces root st k ts texts := by
  induction h with
  | nil =>
    intro k hk
    obtain ⟨k', rfl⟩ : ∃ k', k = k' + 1 := ⟨k - 1, by omega⟩
    exact Pieces.nil k'
  | cons h1 _ ih =>
    intro k hk
    simp only [List.length_cons] at hk
    obtain ⟨k', rfl⟩ : ∃ k', k = k' + 1 := ⟨k - 1, by omega⟩
    exact Pieces.cons (C05.pieceText_fuel_mono_le (by omega) h1) (ih k' (by omega))

/-- … so the token slice renders to their concatenation (`C05.slice_eq_concat`). -/
theorem slice_of_piecesAt {j : Nat} {root : Mapping} {st : RState} {ts : List Token}
    {texts : List Str} (h : PiecesAt j root st ts texts) (k : Nat) (hk : j + ts.length < k) :
    slice k root ts st = .ok texts.flatten :=
  C05.slice_eq_concat.2 ⟨texts, pieces_of_piecesAt h k hk, rfl⟩

/-- **The segments of a reference are `split(':')` of the concatenated piece texts.**  Let the
pieces `parts` of the reference path have the texts `t₁ … tₙ` (`C05.PiecesAt`: each piece
resolved from its own copy of the state, interpolated, container pieces as JSON).  Then, for all
sufficiently large fuel, `Token::resolve` walks the segments `splitColon (t₁ ++ … ++ tₙ)`:
piece boundaries play no role, and a `:` inside the text of a nested reference is a segment
separator. -/
theorem path_of_pieces {j : Nat} {root : Mapping} {parts : List Token} {texts : List Str}
    {st : RState} (hd : st.depth + 1 ≤ maxDepth)
    (hp : PiecesAt j root { st with depth := st.depth + 1 } parts texts)
    (hseen : texts.flatten ∉ st.seen) (fuel : Nat) (hf : j + parts.length < fuel) :
    tokResolve (fuel+1) root (.ref parts) st =
      walkSegments fuel root texts.flatten
        { st with depth := st.depth + 1, seen := texts.flatten :: st.seen }
        (splitColon texts.flatten) :=
  resolve_walks_split hd (slice_of_piecesAt hp fuel hf) hseen

def refSegments (n : Nat) (root : Mapping) (parts : List Token) (st : RState) : R (List Str) :=
  match slice n root parts st with
  | .error e => .error e
  | .ok path => .ok (splitColon path)

/-- `Token::resolve` in terms of `refSegments` is `resolve_walks_split`; this is the statement
about the segment list alone: with piece texts `t₁ … tₙ` it is `splitColon (t₁ ++ … ++ tₙ)`. -/
theorem refSegments_of_pieces {j : Nat} {root : Mapping} {parts : List Token} {texts : List Str}
    {st : RState} (hp : PiecesAt j root st parts texts) (fuel : Nat)
    (hf : j + parts.length < fuel) :
    refSegments fuel root parts st = .ok (splitColon texts.flatten) := by
  simp only [refSegments, slice_of_piecesAt hp fuel hf]

/-- Conversely, whenever the segment list exists it is the split of the concatenation of piece
texts (all computed with the same fuel, from the same state). -/
theorem refSegments_ok {n : Nat} {root : Mapping} {parts : List Token} {st : RState}
    {segs : List Str} (h : refSegments n root parts st = .ok segs) :
    ∃ texts, PiecesAt n root st parts texts ∧ segs = splitColon texts.flatten := by
  unfold refSegments at h
  cases h1 : slice n root parts st with
  | error e => simp [h1] at h
  | ok path =>
    simp only [h1, Except.ok.injEq] at h
    obtain ⟨texts, hp, hs⟩ := C05.slice_eq_concat_uniform h1
    exact ⟨texts, hp, by rw [← h, hs]⟩

/-! ### 2. A nested reference whose text contains `:` -/

/-- `a ++ ":" ++ b` with `a` free of `:`: the first segment is `a`, the others are the segments
of `b` — ALL of them (from `split_append_colon`). -/
theorem split_colon_tail {a : Str} (ha : ':' ∉ a) (b : Str) :
    splitColon (a ++ ':' :: b) = a :: splitColon b := by
  rw [split_append_colon, splitColon_of_not_mem ha]; rfl

/-- The two-level instance: `a:b₁:b₂` where the tail `b₁:b₂` is one piece of text. -/
theorem split_nested_two {a b1 b2 : Str} (ha : ':' ∉ a) (h1 : ':' ∉ b1) (h2 : ':' ∉ b2) :
    splitColon (a ++ ':' :: (b1 ++ ':' :: b2)) = [a, b1, b2] := by
  rw [split_colon_tail ha, split_colon_tail h1, splitColon_of_not_mem h2]

/-- The number of segments of `a ++ ":" ++ b` is 2 plus the number of `:` in `a` and in `b`. -/
theorem split_nested_length (a b : Str) :
    (splitColon (a ++ ':' :: b)).length = a.count ':' + b.count ':' + 2 := by
  rw [split_append_colon, List.length_append, split_length, split_length]; omega

/-- If the tail `b` contains a `:`, the split of `a ++ ":" ++ b` is NOT the two segments
`[a, b]`: the tail is not one opaque segment. -/
theorem split_nested_not_one_segment (a : Str) {b : Str} (hb : ':' ∈ b) :
    splitColon (a ++ ':' :: b) ≠ [a, b] := by
  intro h
  have hl := split_nested_length a b
  rw [h] at hl
  have : 0 < b.count ':' := List.count_pos_iff.2 hb
  simp at hl; omega

theorem nested_selector_slice {j : Nat} {root : Mapping} {inner : List Token} (a : Str) {b : Str}
    {st : RState} (hsel : pieceText j root (.ref inner) st = .ok b) :
    slice (j + 3) root [.lit (a ++ [':']), .ref inner] st = .ok (a ++ ':' :: b) := by
  -- `j + 3`: `slice_of_piecesAt` asks for more than the pieces' fuel plus their number, two
  cases j with
  | zero => simp [pieceText, tokResolve] at hsel
  | succ j =>
    have hp : PiecesAt (j+1) root st [.lit (a ++ [':']), .ref inner] [a ++ [':'], b] :=
      PiecesAt.cons (C05.literal_piece_text j root _ _) (PiecesAt.cons hsel PiecesAt.nil)
    have hs := slice_of_piecesAt hp (j + 1 + 3) (by simp)
    simpa using hs

/-- **The segments of `${a:${inner}}`.**  The reference whose path pieces are the literal text
`a ++ ":"` and a nested reference whose text (value resolved, interpolated, `raw_string`) is `b`
walks the segments `splitColon a ++ splitColon b`: every `:` inside `b` separates segments. -/
theorem nested_selector_with_colon {j : Nat} {root : Mapping} {inner : List Token} {a b : Str}
    {st : RState} (hd : st.depth + 1 ≤ maxDepth)
    (hsel : pieceText j root (.ref inner) { st with depth := st.depth + 1 } = .ok b)
    (hseen : a ++ ':' :: b ∉ st.seen) (fuel : Nat) (hf : j + 2 < fuel) :
    tokResolve (fuel+1) root (.ref [.lit (a ++ [':']), .ref inner]) st =
      walkSegments fuel root (a ++ ':' :: b)
        { st with depth := st.depth + 1, seen := (a ++ ':' :: b) :: st.seen }
        (splitColon a ++ splitColon b) := by
  rw [← split_append_colon]
  exact resolve_walks_split hd
    (slice_fuel_mono_le (by omega) root _ _ (nested_selector_slice a hsel) (by simp)) hseen

/-- **Reference found along raw mappings** (general form, any pieces).  If the path text splits
into `k0 :: segs`, the parameters hold `v0` under `k0` and the walk along `segs` through raw
mappings ends at `vt`, `Token::resolve` returns what its trailing loop makes of `vt`. -/
theorem ref_raw_resolve {j : Nat} {root : Mapping} {parts : List Token} {path k0 : Str}
    {segs : List Str} {v0 vt : Value} {st : RState} (hd : st.depth + 1 ≤ maxDepth)
    (hs : slice j root parts { st with depth := st.depth + 1 } = .ok path)
    (hseen : path ∉ st.seen) (hsplit : splitColon path = k0 :: segs)
    (hget : root.get (.str k0) = some v0) (hraw : rawPath v0 segs = some vt)
    (fuel : Nat) (hf : j + segs.length + 1 ≤ fuel) :
    tokResolve (fuel+1) root (.ref parts) st =
      finalLoop fuel root vt { st with depth := st.depth + 1, seen := path :: st.seen } :=
  resolve_raw_ok hd hs hseen hsplit hget hraw fuel hf

/-- **Reference with a missing last segment** (general form).  The path text splits into
`k0 :: (segs ++ [key])`; the walk along `segs` ends at a raw mapping without the key `key`: the
error names the whole reference text and exactly the segment `key`. -/
theorem ref_raw_missing {j : Nat} {root : Mapping} {parts : List Token} {path k0 key : Str}
    {segs : List Str} {v0 : Value} {es : List (Key × Value)} {ck ok : List Key} {st : RState}
    (hd : st.depth + 1 ≤ maxDepth)
    (hs : slice j root parts { st with depth := st.depth + 1 } = .ok path)
    (hseen : path ∉ st.seen) (hsplit : splitColon path = k0 :: (segs ++ [key]))
    (hget : root.get (.str k0) = some v0) (hraw : rawPath v0 segs = some (.map es ck ok))
    (hl : lookup (.str key) es = none) (fuel : Nat) (hf : j + segs.length + 2 ≤ fuel) :
    tokResolve (fuel+1) root (.ref parts) st = .error (.missingKey path key st.curKey) :=
  resolve_raw_missing hd hs hseen hsplit hget hraw hl fuel hf

/-- **`${a:${inner}}` finds the value at the path `a`, then ALL segments of the nested text.**
`a` is free of `:` and names the parameter `v0`; the nested reference has the text `b`; walking
`splitColon b` (several segments if `b` contains `:`) from `v0` through raw mappings ends at
`vt`.  Then the reference resolves to what the trailing loop makes of `vt`. -/
theorem nested_selector_resolve {j : Nat} {root : Mapping} {inner : List Token} {a b : Str}
    {v0 vt : Value} {st : RState} (hd : st.depth + 1 ≤ maxDepth) (ha : ':' ∉ a)
    (hsel : pieceText j root (.ref inner) { st with depth := st.depth + 1 } = .ok b)
    (hseen : a ++ ':' :: b ∉ st.seen)
    (hget : root.get (.str a) = some v0) (hraw : rawPath v0 (splitColon b) = some vt)
    (fuel : Nat) (hf : j + (splitColon b).length + 4 ≤ fuel) :
    tokResolve (fuel+1) root (.ref [.lit (a ++ [':']), .ref inner]) st =
      finalLoop fuel root vt
        { st with depth := st.depth + 1, seen := (a ++ ':' :: b) :: st.seen } :=
  -- `+ 4`: the path text is rendered at `j + 3` (`nested_selector_slice`)
  ref_raw_resolve hd (nested_selector_slice a hsel) hseen (split_colon_tail ha b) hget hraw fuel
    (by omega)

/-- **`${a:${inner}}` with a missing last segment names THAT SEGMENT.**  The nested text `b`
splits into `segs ++ [key]`; the walk along `segs` from the parameter `a` ends at a raw mapping
without `key`.  The error carries the reference text `a:b` and the missing key `key` — a
segment of `b` (e.g. `cache` for `b = tier:cache`), not `b` itself. -/
theorem nested_selector_missing {j : Nat} {root : Mapping} {inner : List Token} {a b key : Str}
    {segs : List Str} {v0 : Value} {es : List (Key × Value)} {ck ok : List Key} {st : RState}
    (hd : st.depth + 1 ≤ maxDepth) (ha : ':' ∉ a)
    (hsel : pieceText j root (.ref inner) { st with depth := st.depth + 1 } = .ok b)
    (hseen : a ++ ':' :: b ∉ st.seen) (hb : splitColon b = segs ++ [key])
    (hget : root.get (.str a) = some v0) (hraw : rawPath v0 segs = some (.map es ck ok))
    (hl : lookup (.str key) es = none) (fuel : Nat) (hf : j + segs.length + 5 ≤ fuel) :
    tokResolve (fuel+1) root (.ref [.lit (a ++ [':']), .ref inner]) st =
      .error (.missingKey (a ++ ':' :: b) key st.curKey) :=
  -- `+ 5`: the path text is rendered at `j + 3` (`nested_selector_slice`)
  ref_raw_missing hd (nested_selector_slice a hsel) hseen (by rw [split_colon_tail ha, hb]) hget
    hraw hl fuel (by omega)

/-! ### Non-vacuity and the concrete case -/

private def S (s : String) : Str := s.toList
private def K (s : String) : Key := .str s.toList

example : splitColon (S "sizes:tier:web") = [S "sizes", S "tier", S "web"] := by
  -- `String.toList_ofList`: the kernel's own evaluation of `String.toList` is quadratic
  unfold S
  rw [String.toList_ofList, String.toList_ofList, String.toList_ofList, String.toList_ofList]
  decide +kernel
example : splitColon (S "sizes:" ++ S "tier:web") = [S "sizes", S "tier", S "web"] := by
  unfold S
  rw [String.toList_ofList, String.toList_ofList, String.toList_ofList, String.toList_ofList,
    String.toList_ofList]
  decide +kernel
example : splitColon (S "sizes:" ++ S "tier:web") ≠ [S "sizes", S "tier:web"] := by
  unfold S
  rw [String.toList_ofList, String.toList_ofList, String.toList_ofList]
  decide +kernel
example : splitColon (S "sizes:tier:web") = [S "sizes", S "tier", S "web"] := by
  have h : S "sizes:tier:web" = S "sizes" ++ ':' :: (S "tier" ++ ':' :: S "web") := by
    unfold S
    rw [String.toList_ofList, String.toList_ofList, String.toList_ofList, String.toList_ofList]
    rfl
  rw [h]
  exact split_nested_two (by decide +kernel) (by decide +kernel) (by decide +kernel)

/-- `${sizes:${selector}}` parses to a reference with the literal piece `sizes:` and the nested
reference `${selector}`. -/
example : parseText (S "${sizes:${selector}}") = some (S "R[L(sizes:)R[L(selector)]]") := by
  unfold S
  rw [String.toList_ofList, String.toList_ofList]
  decide +kernel

/-- `{sizes: {tier: {web: 2}}, selector: "tier:web", u: "${sizes:${selector}}"}`. -/
def demoSelector : Mapping :=
  ⟨[(K "sizes", .map [(K "tier", .map [(K "web", .num (.int 2))] [] [])] [] []),
    (K "selector", .str (S "tier:web")),
    (K "u", .str (S "${sizes:${selector}}"))], [], []⟩

/-- `{sizes: {tier: {web: 2}}, selector: "tier:cache", u: "${sizes:${selector}}"}`. -/
def demoSelectorMissing : Mapping :=
  ⟨[(K "sizes", .map [(K "tier", .map [(K "web", .num (.int 2))] [] [])] [] []),
    (K "selector", .str (S "tier:cache")),
    (K "u", .str (S "${sizes:${selector}}"))], [], []⟩

/-- `u` renders to `2`: the nested text `tier:web` supplied the two segments `tier`, `web`. -/
example : C07.renderJson 50 demoSelector =
    some (S "{\"selector\":\"tier:web\",\"sizes\":{\"tier\":{\"web\":2}},\"u\":2}") := by
  rw [S, String.toList_ofList]; decide +kernel

/-- Missing key: the error names the reference text `sizes:tier:cache`, the SEGMENT `cache`
(not `tier:cache`), and the parameter `u`. -/
example : missingKeyOf (renderParamsF 50 demoSelectorMissing) =
    some (S "sizes:tier:cache", S "cache", S "u") := by
  conv => rhs; unfold S; rw [String.toList_ofList, String.toList_ofList, String.toList_ofList]
  decide +kernel

/-- A literal key `"tier:web"` inside `sizes` is NOT what the reference finds: with only that
key present the lookup fails at the segment `tier`. -/
example : missingKeyOf (renderParamsF 50
    ⟨[(K "sizes", .map [(K "tier:web", .num (.int 9))] [] []),
      (K "selector", .str (S "tier:web")),
      (K "u", .str (S "${sizes:${selector}}"))], [], []⟩) =
    some (S "sizes:tier:web", S "tier", S "u") := by
  conv => rhs; unfold S; rw [String.toList_ofList, String.toList_ofList, String.toList_ofList]
  decide +kernel

/-- The nested piece `${selector}` has the text `tier:web` (hypothesis `hsel` of the
`nested_selector_*` theorems, in the state `Token::resolve` hands to the pieces). -/
theorem demoSelector_piece :
    pieceText 6 demoSelector (.ref [.lit (S "selector")]) { depth := 1 } = .ok (S "tier:web") := by
  decide +kernel

/-- All hypotheses of `nested_selector_resolve` hold for `${sizes:${selector}}` in
`demoSelector`: at every fuel ≥ 12 the reference resolves to the number 2. -/
example (fuel : Nat) (hf : 12 ≤ fuel) :
    tokResolve (fuel+1) demoSelector (.ref [.lit (S "sizes:"), .ref [.lit (S "selector")]]) {} =
      .ok (.num (.int 2), { depth := 1, seen := [S "sizes:tier:web"] }) := by
  have h := nested_selector_resolve (j := 6) (root := demoSelector) (a := S "sizes")
    (b := S "tier:web") (inner := [.lit (S "selector")]) (st := {})
    (v0 := .map [(K "tier", .map [(K "web", .num (.int 2))] [] [])] [] [])
    (vt := .num (.int 2)) (by decide) (by decide +kernel) demoSelector_piece (by simp)
    (by rfl) (by rfl) fuel (by
      have : (splitColon (S "tier:web")).length = 2 := by decide +kernel
      omega)
  have h2 : S "sizes" ++ [':'] = S "sizes:" := by decide +kernel
  have h3 : S "sizes" ++ ':' :: S "tier:web" = S "sizes:tier:web" := by decide +kernel
  rw [h2, h3] at h
  rw [h]
  exact Termination.finalLoop_done rfl rfl _ _ fuel (by omega)

theorem demoSelectorMissing_piece :
    pieceText 6 demoSelectorMissing (.ref [.lit (S "selector")]) { depth := 1 } =
      .ok (S "tier:cache") := by
  decide +kernel

/-- … and of `nested_selector_missing` for `demoSelectorMissing`: at every fuel ≥ 12 the error
names the segment `cache`. -/
example (fuel : Nat) (hf : 12 ≤ fuel) :
    tokResolve (fuel+1) demoSelectorMissing
      (.ref [.lit (S "sizes:"), .ref [.lit (S "selector")]]) {} =
      .error (.missingKey (S "sizes:tier:cache") (S "cache") []) := by
  have h := nested_selector_missing (j := 6) (root := demoSelectorMissing) (a := S "sizes")
    (b := S "tier:cache") (key := S "cache") (segs := [S "tier"])
    (inner := [.lit (S "selector")]) (st := {})
    (v0 := .map [(K "tier", .map [(K "web", .num (.int 2))] [] [])] [] [])
    (es := [(K "web", .num (.int 2))]) (ck := []) (ok := [])
    (by decide) (by decide +kernel) demoSelectorMissing_piece (by simp) (by decide +kernel)
    (by rfl) (by rfl) (by rfl) fuel (by simp; omega)
  have h2 : S "sizes" ++ [':'] = S "sizes:" := by decide +kernel
  have h3 : S "sizes" ++ ':' :: S "tier:cache" = S "sizes:tier:cache" := by decide +kernel
  rw [h2, h3] at h
  exact h

end C03
end Reclass
