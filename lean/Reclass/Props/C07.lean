/-
  C07 — Successfully rendered parameters are plain data.

  "Every value is null, bool, number, string, list or mapping, no value still holds a
  reference that should have been resolved, no multi-layer artefact is visible, and a key
  written with a leading = or ~ marker appears without it.  Rendering already rendered
  parameters again leaves them unchanged."

  All statements hold for every input and every amount of fuel (no size bound).

  Hypotheses.  The code strips one leading `=`/`~` from a `String` key on *every* pass
  (merge, interpolate, flatten).  A stored key that still starts with a marker (source key with
  two or more markers) can therefore collide with a sibling on a later pass and leave a layer
  list behind (`wf_needed` below is the machine-checked witness).  The
  theorems carry `WF` ("every key in every mapping is marker-free and unique") instead;
  `ofYaml_wf` shows that every YAML document whose keys have at most one marker decodes to a
  `WF` value and `merge_wf` that merging keeps it.

  Two statements one would expect are FALSE of the model (hence of the Rust code):
   * `flattened` returns closed data under the hypothesis `NoStr v ∧ WF v`: it does not flatten
     below a layer it merges (`flat_not_closed₁`, `flat_not_closed₂`).  Proved instead:
     `flat_closed_partial` (input `Closed`), `flat_noStr` (`NoStr ∧ WF` is preserved); the
     main theorem only needs the former because `interp` already returns closed data.
   * `interpStrOrVl` never returning `String`/`ValueList` unconditionally:
     `interpStrOrVl_str_counterexample`, `resolve_panic_reachable` (a hand-built layer list
     nested directly in a layer list).  Proved under "no nested layer lists" (`NoNest`), which
     `ofYaml_noNest` shows holds for everything decoded from YAML.
-/
import Reclass.Lemmas.ClosedL
import Reclass.Lemmas.TextL
namespace Reclass
namespace C07

/-! ### 1. `interpolate` never returns `String`/`ValueList`; the `unreachable!` of `Token::resolve` -/

/-- **No hypotheses.** Whatever `Value::interpolate` returns is neither an unparsed
`Value::String` nor a `Value::ValueList` (top-level constructor). -/
theorem interp_never_str_vl {n : Nat} {root : Mapping} {v r : Value} {st st' : RState}
    (h : interp n root v st = .ok (r, st')) : (∀ s, r ≠ .str s) ∧ (∀ l, r ≠ .vl l) :=
  (notStrVl_iff r).1 ((interp_tokRender_notStrVl n).1 _ _ _ _ _ h)

/-- **No hypotheses.** The same for `Token::render`. -/
theorem tokRender_never_str_vl {n : Nat} {root : Mapping} {t : Token} {r : Value}
    {st st' : RState} (h : tokRender n root t st = .ok (r, st')) :
    (∀ s, r ≠ .str s) ∧ (∀ l, r ≠ .vl l) :=
  (notStrVl_iff r).1 ((interp_tokRender_notStrVl n).2 _ _ _ _ _ h)

/-- The unconditional claim for `interpolate_string_or_valuelist` is false: a layer list nested
directly in a layer list is flattened by `merge` without interpolating its `String` layers. -/
theorem interpStrOrVl_str_counterexample :
    interpStrOrVl 5 {} (.vl [.vl [.str "x".toList]]) {} = .ok (.str "x".toList, {}) := by rfl

/-- … and with such a (hand-built) value in the parameters the `unreachable!` in
`Token::resolve` is reached: resolving `${a:k}`. -/
theorem resolve_panic_reachable :
    tokResolve 10 ⟨[(.str "a".toList, .vl [.vl [.str "x".toList]])], [], []⟩
      (.ref [.lit "a:k".toList]) {} = .error (.panic .resolveNewvStrVl) := by rfl

/-- `interpolate_string_or_valuelist` returns neither `String` nor `ValueList` provided every
layer that is itself a layer list contains no unparsed string (recursively; `LayersOK`). -/
theorem interpStrOrVl_never_str_vl {n : Nat} {root : Mapping} {v newv : Value} {st st' : RState}
    (hv : ∀ l, v = .vl l → ∀ x ∈ l, ∀ l', x = .vl l' → LayersOK l')
    (h : interpStrOrVl n root v st = .ok (newv, st')) :
    (∀ s, newv ≠ .str s) ∧ (∀ l, newv ≠ .vl l) :=
  (notStrVl_iff newv).1 (interpStrOrVl_notStrVl hv h)

/-- In particular when no layer of `v` is itself a layer list — what `Mapping::insert` builds. -/
theorem interpStrOrVl_never_str_vl_flat {n : Nat} {root : Mapping} {v newv : Value}
    {st st' : RState} (hv : ∀ l, v = .vl l → ∀ x ∈ l, x.isVl = false)
    (h : interpStrOrVl n root v st = .ok (newv, st')) :
    (∀ s, newv ≠ .str s) ∧ (∀ l, newv ≠ .vl l) := by
  refine interpStrOrVl_never_str_vl (fun l hl x hx l' hl' => ?_) h
  subst hl'
  cases hv l hl _ hx

/-- The lookup loop of `Token::resolve` never hits its `unreachable!("We should have rendered
Value::String and Value::ValueList into some other variant")` when root and start value are
well-formed and free of nested layer lists. -/
theorem descend_no_panic {n : Nat} {root : Mapping} {v : Value} {segs : List Str} {st : RState}
    {path : Str} (hr : WF root.toValue) (hrn : NoNest root.toValue) (hv : WF v) (hvn : NoNest v) :
    descend n root v segs st path ≠ .error (.panic .resolveNewvStrVl) :=
  fun h => (noRPInv n).descend _ _ _ _ _ _ ⟨hr, hrn⟩ ⟨hv, hvn⟩ h rfl

/-- `Token::resolve` as a whole never fails with that panic. -/
theorem tokResolve_no_panic {n : Nat} {root : Mapping} {t : Token} {st : RState}
    (hr : WF root.toValue) (hrn : NoNest root.toValue) :
    tokResolve n root t st ≠ .error (.panic .resolveNewvStrVl) :=
  fun h => (noRPInv n).tokResolve _ _ _ _ ⟨hr, hrn⟩ h rfl

/-- Rendering parameters never fails with that panic. -/
theorem render_no_resolve_panic {n : Nat} {m : Mapping}
    (hm : WF m.toValue) (hn : NoNest m.toValue) :
    renderParamsF n m ≠ .error (.panic .resolveNewvStrVl) := by
  intro h
  rcases renderParamsF_error h with h | ⟨k, hk⟩
  · rw [renderedF_eqB] at h
    rcases bind2_err.1 h with h1 | ⟨v, st, -, h2⟩
    · exact (noRPInv n).interp _ _ _ _ ⟨hm, hn⟩ ⟨hm, hn⟩ h1 rfl
    · exact flat_notRP _ _ _ h2 rfl
  · cases hk

/-- Everything decoded from YAML is free of nested layer lists. -/
theorem ofYaml_noNest {y : Yaml} {v : Value} (h : Value.ofYaml y = .ok v) : NoNest v :=
  Reclass.ofYaml_noNest y v h

/-! ### 2. `flattened` -/

/-- `NoStr v → WF v → flat v st = .ok r → Closed r` is false: `flattened` of a layer list does not
flatten inside the layer it keeps … -/
theorem flat_not_closed₁ :
    NoStr (.vl [.seq [.vl [.null, .bool true]]]) ∧ WF (.vl [.seq [.vl [.null, .bool true]]]) ∧
    flat (.vl [.seq [.vl [.null, .bool true]]]) {} = .ok (.seq [.vl [.null, .bool true]]) ∧
    ¬ Closed (.seq [.vl [.null, .bool true]]) := by
  decide +kernel

/-- … and merging two mapping layers leaves the layer lists that `Mapping::merge` builds. -/
theorem flat_not_closed₂ :
    let v := Value.vl [.map [(.str "a".toList, .bool true)] [] [],
                       .map [(.str "a".toList, .bool false)] [] []]
    NoStr v ∧ WF v ∧
    flat v {} = .ok (.map [(.str "a".toList, .vl [.bool true, .bool false])] [] []) ∧
    ¬ Closed (.map [(.str "a".toList, .vl [.bool true, .bool false])] [] []) := by
  decide +kernel

/-- `flattened` of closed, well-formed data is closed and well-formed (this is all the main theorem
needs). -/
theorem flat_closed_partial {v r : Value} {st : RState} (hc : Closed v) (hw : WF v)
    (h : flat v st = .ok r) : Closed r ∧ WF r :=
  ⟨flat_closed v st r hc hw h, flat_wf v st r hw h⟩

/-- `flattened` never re-introduces an unparsed string and keeps well-formedness, for every
string-free input (with or without layer lists). -/
theorem flat_noStr {v r : Value} {st : RState} (hs : NoStr v) (hw : WF v)
    (h : flat v st = .ok r) : NoStr r ∧ WF r :=
  ⟨noStrPred.flat_pres v st r hs h, flat_wf v st r hw h⟩

/-- `flattened` keeps well-formedness of any value. -/
theorem flat_wf {v r : Value} {st : RState} (hw : WF v) (h : flat v st = .ok r) : WF r :=
  Reclass.flat_wf v st r hw h

/-! ### 3. `interpolate` -/

/-- With well-formed parameters, whatever `Value::interpolate` returns for a well-formed value is
closed (no unparsed string, no layer list at any depth) and well-formed. -/
theorem interp_closed {n : Nat} {root : Mapping} {v r : Value} {st st' : RState}
    (hr : WF root.toValue) (hv : WF v) (h : interp n root v st = .ok (r, st')) :
    Closed r ∧ WF r :=
  (interpInv n).interp _ _ _ _ _ hr hv h

/-- The same for `Token::render` (any token). -/
theorem tokRender_closed {n : Nat} {root : Mapping} {t : Token} {r : Value} {st st' : RState}
    (hr : WF root.toValue) (h : tokRender n root t st = .ok (r, st')) : Closed r ∧ WF r :=
  (interpInv n).tokRender _ _ _ _ _ hr h

/-! ### 4. Rendered parameters are plain data -/

/-- `Value::rendered`: closed and well-formed. -/
theorem rendered_closed {n : Nat} {root : Mapping} {v r : Value}
    (hr : WF root.toValue) (hv : WF v) (h : renderedF n v root = .ok r) : Closed r ∧ WF r := by
  rw [renderedF_eqB] at h
  obtain ⟨v', st, h1, h⟩ := bind2_ok.1 h
  have := interp_closed hr hv h1
  exact flat_closed_partial this.1 this.2 h

/-- **Main theorem.** Successfully rendered parameters contain no unresolved string and no
layer list at any position (`Closed`: only null, bool, number, literal string, sequence,
mapping), and every key of every mapping in them is free of `=`/`~` markers and unique. -/
theorem render_closed {n : Nat} {m out : Mapping} (hm : WF m.toValue)
    (h : renderParamsF n m = .ok out) : Closed out.toValue ∧ WF out.toValue :=
  rendered_closed hm hm (renderParamsF_ok.1 h)

/-- Rendering keeps the top-level keys, in order, and a key is flagged constant (override)
afterwards iff it was flagged before and is present. -/
theorem render_keys {n : Nat} {m out : Mapping} (hm : WF m.toValue)
    (h : renderParamsF n m = .ok out) :
    keys out.es = keys m.es ∧
    (∀ x, x ∈ out.ck ↔ x ∈ m.ck ∧ x ∈ keys m.es) ∧
    (∀ x, x ∈ out.ok ↔ x ∈ m.ok ∧ x ∈ keys m.es) :=
  renderParamsF_shape hm h

/-- The `WF` hypothesis cannot be dropped: a stored key that still carries a marker (`=a`, from
a source key `==a`) collides with its sibling `a` during rendering and a layer list survives. -/
theorem wf_needed :
    renderParamsF 50 ⟨[(.str "a".toList, .map [(.str "x".toList, .bool true)] [] []),
                       (.str "=a".toList, .map [(.str "x".toList, .bool false)] [] [])], [], []⟩
      = .ok ⟨[(.str "a".toList, .map [(.str "x".toList, .vl [.bool true, .bool false])] [] [])],
             [.str "a".toList], []⟩ := by decide +kernel

/-! ### 5. Where `WF` comes from -/

/-- A key is clean iff it is not a `String` key starting with `=` or `~`. -/
theorem cleanKey_iff (k : Key) :
    CleanKey k ↔ ∀ c cs, k = .str (c :: cs) → c ≠ '=' ∧ c ≠ '~' :=
  Reclass.cleanKey_iff k

/-- Every YAML document whose string keys carry at most one leading marker decodes to a
well-formed value (equal keys after stripping are collected into a layer list, which is fine). -/
theorem ofYaml_wf {y : Yaml} {v : Value} (hy : SingleMarker y) (h : Value.ofYaml y = .ok v) :
    WF v :=
  Reclass.ofYaml_wf y v hy h

/-- `Mapping::merge` of well-formed mappings is well-formed. -/
theorem merge_wf {a b c : Mapping} (ha : a.WF) (hb : b.WF) (h : Mapping.merge a b = .ok c) :
    c.WF :=
  Reclass.merge_wf ha hb h

/-- `Value::merge` of well-formed values is well-formed. -/
theorem mergeV_wf {a b c : Value} {st : RState} (ha : WF a) (hb : WF b)
    (h : mergeV a b st = .ok c) : WF c :=
  Reclass.mergeV_wf a b st c ha hb h

/-! ### 6. Rendering rendered parameters again changes nothing -/

/-- Interpolating closed, well-formed data with fuel at least its size succeeds, leaves the
resolve state alone and returns the same data up to the flag sets. -/
theorem interp_closed_id {n : Nat} {root : Mapping} {v : Value} {st : RState}
    (hc : Closed v) (hw : WF v) (hn : size v ≤ n) :
    ∃ v', interp n root v st = .ok (v', st) ∧ erase v' = erase v :=
  interp_id v n root st hc hw hn

/-- Flattening closed, well-formed data succeeds and returns the same data up to the flag sets. -/
theorem flat_closed_id {v : Value} {st : RState} (hc : Closed v) (hw : WF v) :
    ∃ r, flat v st = .ok r ∧ erase r = erase v :=
  flat_id v st hc hw

/-- Rendering closed, well-formed parameters (with fuel at least their size) succeeds and returns
them unchanged: same keys in the same order, same values at every depth (`erase` forgets only
the order/contents of the flag sets below), and the same top-level flags on present keys. -/
theorem render_idempotent {n : Nat} {out : Mapping} (hc : Closed out.toValue)
    (hw : WF out.toValue) (hn : size out.toValue ≤ n) :
    ∃ out', renderParamsF n out = .ok out' ∧ erase out'.toValue = erase out.toValue ∧
      (∀ x, x ∈ out'.ck ↔ x ∈ out.ck ∧ x ∈ keys out.es) ∧
      (∀ x, x ∈ out'.ok ↔ x ∈ out.ok ∧ x ∈ keys out.es) := by
  obtain ⟨r, h1, h2⟩ := interp_id out.toValue n out {} hc hw hn
  obtain ⟨r2, h3, h4⟩ := flat_id r {} (closed_of_erase_eq h2 hc) (wf_of_erase_eq h2 hw)
  have h5 : erase r2 = erase out.toValue := h4.trans h2
  cases r2 with
  | map es ck ok =>
    have hr : renderParamsF n out = .ok ⟨es, ck, ok⟩ :=
      renderParamsF_ok.2 (by rw [renderedF_eqB, h1]; exact h3)
    exact ⟨⟨es, ck, ok⟩, hr, h5, (renderParamsF_shape hw hr).2⟩
  | _ => simp [erase, Mapping.toValue] at h5

/-- **Rendering twice = rendering once.** If rendering well-formed parameters succeeds, rendering
the result again (any fuel ≥ its size) succeeds and gives the same parameters: same entries at
every depth up to the flag sets below the top level, and exactly the same top-level flags. -/
theorem render_twice {n k : Nat} {m out : Mapping} (hm : WF m.toValue)
    (h : renderParamsF n m = .ok out) (hk : size out.toValue ≤ k) :
    ∃ out', renderParamsF k out = .ok out' ∧ erase out'.toValue = erase out.toValue ∧
      (∀ x, x ∈ out'.ck ↔ x ∈ out.ck) ∧ (∀ x, x ∈ out'.ok ↔ x ∈ out.ok) := by
  obtain ⟨hc, hw⟩ := render_closed hm h
  obtain ⟨hk1, hk2, hk3⟩ := renderParamsF_shape hm h
  obtain ⟨out', h1, h2, h3, h4⟩ := render_idempotent hc hw hk
  refine ⟨out', h1, h2, ?_, ?_⟩
  · intro x; rw [h3 x, hk1]; exact ⟨fun a => a.1, fun a => ⟨a, ((hk2 x).1 a).2⟩⟩
  · intro x; rw [h4 x, hk1]; exact ⟨fun a => a.1, fun a => ⟨a, ((hk3 x).1 a).2⟩⟩

/-! ### Non-vacuity -/

/-- A concrete well-formed mapping with a reference and two layers. -/
def demo : Mapping :=
  ⟨[(.str "a".toList, .vl [.map [(.str "x".toList, .num (.int 1))] [] [],
                            .map [(.str "x".toList, .num (.int 2)),
                                  (.str "y".toList, .str "${a:x}".toList)] [] []])],
   [.str "a".toList], []⟩

example : WF demo.toValue := by decide +kernel

/-- JSON text of the rendered parameters (only used to check concrete renders by kernel
evaluation, as the text a user would see). -/
def renderJson (n : Nat) (m : Mapping) : Option Str :=
  match renderParamsF n m with
  | .ok out => (match jsonOf out.toValue with | .ok s => some s | .error _ => none)
  | .error _ => none

/-- The render succeeds: layers merged, reference resolved, result closed. -/
example : renderJson 50 demo = some "{\"a\":{\"x\":2,\"y\":2}}".toList := by decide +kernel

example : renderParamsF 50 ⟨[(.str "a".toList, .str "x".toList)], [], []⟩ =
    .ok ⟨[(.str "a".toList, .lit "x".toList)], [], []⟩ := by decide +kernel

example : renderParamsF 50 ⟨[(.str "a".toList, .str "x".toList),
                             (.str "b".toList, .str "${a}".toList)], [], []⟩ =
    .ok ⟨[(.str "a".toList, .lit "x".toList), (.str "b".toList, .lit "x".toList)], [], []⟩ := by
  decide +kernel

/-- A YAML document with a marked key satisfies `SingleMarker` and decodes. -/
example : SingleMarker (.map [(.str "~a".toList, .str "v".toList), (.str "b".toList, .null)]) := by
  simp only [SingleMarker, SingleMarkerEs, Yaml.keyOK]
  exact ⟨by decide, trivial, by decide, trivial, trivial⟩

example : Value.ofYaml (.map [(.str "~a".toList, .str "v".toList), (.str "b".toList, .null)]) =
    .ok (.map [(.str "a".toList, .str "v".toList), (.str "b".toList, .null)] [] [.str "a".toList]) := by
  decide +kernel

/-- `==a` is rejected by `SingleMarker`. -/
example : ¬ SingleMarker (.map [(.str "==a".toList, .null)]) := by
  simp only [SingleMarker, SingleMarkerEs, Yaml.keyOK]
  intro h; exact absurd h.1 (by decide)

/-- Rendering the rendered `demo` again: unchanged. -/
example : renderParamsF 50 ⟨[(.str "a".toList, .map [(.str "x".toList, .num (.int 2)),
                                  (.str "y".toList, .num (.int 2))] [] [])],
         [.str "a".toList], []⟩ =
    .ok ⟨[(.str "a".toList, .map [(.str "x".toList, .num (.int 2)),
                                  (.str "y".toList, .num (.int 2))] [] [])],
         [.str "a".toList], []⟩ := by decide +kernel

end C07
end Reclass
