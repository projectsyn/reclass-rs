/-
  C04 — A reference used as one layer of a multiply-defined parameter.

  "If one layer of a multiply-defined parameter is a reference, it merges exactly as if the
  rendered referenced value had been written inline at that position."

  Model: the `ValueList` arm of `Value::interpolate` (`src/types/value.rs`) = `interp` on
  `.vl l`, whose first loop is `interpVl` (interpolate every layer with a copy of the state,
  merge it over the accumulator).

  Fuel.  `interpVl (k+1)` interpolates the first layer with fuel `k`, the next with `k-1`, ….
  `layer_step`/`ref_layer_is_value_layer` therefore index the fuel by the position of the layer
  (`n + 1 + pre.length`); `ref_layer_transparent` removes the index with fuel monotonicity
  (`Lemmas/Fuel`): any run that does not end in the model's fuel error has the same outcome
  after the replacement, for all sufficiently large fuel.

  "Written inline" is taken literally: the layer `.str ref` is replaced by the very value `R`
  that `interpolate` returns for it.  This needs `interpolate R = R` *syntactically*
  (`interp_canonical_exact`), which holds because `interpolate` only ever returns mappings whose
  flag lists have the canonical shape `Canon` (`interp_canon_result`).
-/
import Reclass.Lemmas.TextL
namespace Reclass
namespace C04

/-! ### 1. The layer loop -/

/-- **One step of the layer loop.** The first layer is interpolated with (a copy of) the
incoming state `st`; the result is merged over the accumulator `r` (the state returned by the
interpolation is used for error messages only); the remaining layers continue with the new
accumulator and the *original* state `st`. -/
theorem layer_step (n : Nat) (root : Mapping) (v : Value) (vs : List Value) (r : Value)
    (st : RState) :
    interpVl (n+1) root (v :: vs) r st =
      match interp n root v st with
      | .error e => .error e
      | .ok (x, st') =>
        match mergeV r x st' with
        | .error e => .error e
        | .ok r' => interpVl n root vs r' st := interpVl_cons n root v vs r st

theorem layer_done (n : Nat) (root : Mapping) (r : Value) (st : RState) :
    interpVl (n+1) root [] r st = .ok r := rfl

/-- A multiply-defined parameter is rendered by folding its layers from `Null` and rendering
the merged value once more. -/
theorem layers_render (n : Nat) (root : Mapping) (l : List Value) (st : RState) :
    interp (n+1) root (.vl l) st =
      match interpVl n root l .null st with
      | .error e => .error e
      | .ok r => interp n root r st := rfl

/-- **A successful merge does not depend on the resolve state**: `Value::merge` uses it only
to word error messages. -/
theorem mergeV_state_irrelevant_ok {a b r : Value} {st st' : RState}
    (h : mergeV a b st = .ok r) : mergeV a b st' = .ok r :=
  mergeV_ok_state a b st st' r h

/-- More precisely, the whole outcome of a merge (errors included) depends on the state only
through the current parameter path `cur`. -/
theorem mergeV_state_cur_only {a b : Value} {st st' : RState} (h : st.cur = st'.cur) :
    mergeV a b st = mergeV a b st' :=
  mergeV_cur a b st st' h

/-- Interpolation never changes the current parameter path of the state. -/
theorem interp_keeps_cur {n : Nat} {root : Mapping} {v x : Value} {st st' : RState}
    (h : interp n root v st = .ok (x, st')) : st'.cur = st.cur :=
  ((growAt n).interp root v st x st' h).2.2

/-- **A reference layer is a value layer (explicit hypothesis).** Suppose the reference
`.str ref` interpolates to `R` (with the fuel `n` available at its position) and `R`
interpolates to itself.  Then the layer list with the reference at some position and the layer
list with `R` written there instead give the same outcome of the layer loop — same merged
value or same error — for every accumulator `r0`, every prefix and every suffix. -/
theorem ref_layer_is_value_layer {n : Nat} {root : Mapping} {ref : Str} {R : Value}
    {st st1 st2 : RState} (h1 : interp n root (.str ref) st = .ok (R, st1))
    (h2 : interp n root R st = .ok (R, st2)) (pre post : List Value) (r0 : Value) :
    interpVl (n + 1 + pre.length) root (pre ++ .str ref :: post) r0 st =
    interpVl (n + 1 + pre.length) root (pre ++ R :: post) r0 st :=
  interpVl_swap_layer h1 h2 ((interp_keeps_cur h1).trans (interp_keeps_cur h2).symm) post pre r0

/-- The same one level up: the multiply-defined parameter as a whole renders identically. -/
theorem ref_layer_is_value_layer_vl {n : Nat} {root : Mapping} {ref : Str} {R : Value}
    {st st1 st2 : RState} (h1 : interp n root (.str ref) st = .ok (R, st1))
    (h2 : interp n root R st = .ok (R, st2)) (pre post : List Value) :
    interp (n + 2 + pre.length) root (.vl (pre ++ .str ref :: post)) st =
    interp (n + 2 + pre.length) root (.vl (pre ++ R :: post)) st := by
  have e : n + 2 + pre.length = (n + 1 + pre.length) + 1 := by omega
  rw [e, layers_render, layers_render, ref_layer_is_value_layer h1 h2 pre post .null]

/-! ### 2. `interpolate` returns canonical data and is the identity on it -/

/-- `Canon v`: in every mapping inside `v` the two flag lists (`const_keys`, `override_keys`)
are exactly the flagged keys in entry order, without repetition:
`ck = (keys es).filter (· ∈ ck)` and likewise for `ok`.  This is the shape
`Mapping::interpolate` and `Mapping::flattened` produce when they rebuild a mapping with clean,
distinct keys into a fresh one (`insert_impl` appends a newly flagged key to the set). -/
abbrev Canon := Reclass.Canon

theorem canon_map (es : List (Key × Value)) (ck ok : List Key) :
    Canon (.map es ck ok) ↔
      CanonEs es ∧ ck = (keys es).filter (fun k => decide (k ∈ ck)) ∧
        ok = (keys es).filter (fun k => decide (k ∈ ok)) := by
  simp [Canon, Reclass.Canon, flagsOf]

/-- **(a) `interpolate` returns canonical values.** For well-formed parameters and a well-formed
input, whatever `Value::interpolate` returns is canonical (besides closed and well-formed,
`C07.interp_closed`). -/
theorem interp_canon_result {n : Nat} {root : Mapping} {v r : Value} {st st' : RState}
    (hr : WF root.toValue) (hv : WF v) (h : interp n root v st = .ok (r, st')) :
    Canon r ∧ Closed r ∧ WF r :=
  ⟨(canonInv n).interp _ _ _ _ _ hr hv h, (interpInv n).interp _ _ _ _ _ hr hv h⟩

/-- **(b) `interpolate` is the identity on closed canonical data** — exactly, not only up to
the flag sets (strengthens `C07.interp_closed_id`): with fuel at least the size of `v`,
`interpolate v` returns `v` itself and the unchanged state. -/
theorem interp_canonical_exact {n : Nat} {root : Mapping} {v : Value} {st : RState}
    (hc : Closed v) (hw : WF v) (hk : Canon v) (hn : size v ≤ n) :
    interp n root v st = .ok (v, st) :=
  interp_canon v n root st hc hw hk hn

/-- `flattened` likewise returns closed canonical data unchanged. -/
theorem flat_canonical_exact {v : Value} {st : RState} (hc : Closed v) (hw : WF v) (hk : Canon v) :
    flat v st = .ok v :=
  flat_canon v st hc hw hk

/-- Rendering is idempotent on the nose: what `interpolate` returned, `interpolate` (with enough
fuel, any state, any root) returns again unchanged. -/
theorem interp_idempotent_exact {n m : Nat} {root root' : Mapping} {v r : Value}
    {st st' st2 : RState} (hr : WF root.toValue) (hv : WF v)
    (h : interp n root v st = .ok (r, st')) (hm : size r ≤ m) :
    interp m root' r st2 = .ok (r, st2) := by
  obtain ⟨hk, hc, hw⟩ := interp_canon_result hr hv h
  exact interp_canonical_exact hc hw hk hm

/-- Without canonical flag lists the identity is only up to the flag sets: a closed mapping
whose `const_keys` mention an absent key comes back with the key dropped. -/
example : interp 10 {} (.map [(.str "a".toList, .null)] [.str "zz".toList] []) {} =
    .ok (.map [(.str "a".toList, .null)] [] [], {}) := by rfl

/-- **A reference layer merges exactly like the value it renders to (fuel-indexed).** For
well-formed parameters: if the reference `.str ref` renders to `R`, then in any layer list the
reference layer can be replaced by `R` written inline without changing the outcome of the layer
loop, as soon as the fuel at that position is enough for both (`m ≥ n`, `m ≥ size R`). -/
theorem ref_layer_transparent_at {n m : Nat} {root : Mapping} {ref : Str} {R : Value}
    {st st1 : RState} (hr : WF root.toValue) (h : interp n root (.str ref) st = .ok (R, st1))
    (hnm : n ≤ m) (hsz : size R ≤ m) (pre post : List Value) (r0 : Value) :
    interpVl (m + 1 + pre.length) root (pre ++ .str ref :: post) r0 st =
    interpVl (m + 1 + pre.length) root (pre ++ R :: post) r0 st := by
  have h1 : interp m root (.str ref) st = .ok (R, st1) :=
    interp_fuel_mono_le hnm root _ st h (by simp)
  obtain ⟨hk, hc, hw⟩ := interp_canon_result hr (by simp [WF]) h
  exact ref_layer_is_value_layer h1 (interp_canonical_exact hc hw hk hsz) pre post r0

/-- The same for the multiply-defined parameter as a whole. -/
theorem ref_layer_transparent_vl_at {n m : Nat} {root : Mapping} {ref : Str} {R : Value}
    {st st1 : RState} (hr : WF root.toValue) (h : interp n root (.str ref) st = .ok (R, st1))
    (hnm : n ≤ m) (hsz : size R ≤ m) (pre post : List Value) :
    interp (m + 2 + pre.length) root (.vl (pre ++ .str ref :: post)) st =
    interp (m + 2 + pre.length) root (.vl (pre ++ R :: post)) st := by
  have e : m + 2 + pre.length = (m + 1 + pre.length) + 1 := by omega
  rw [e, layers_render, layers_render, ref_layer_transparent_at hr h hnm hsz pre post .null]

/-- **C04, fuel-free form.** Let the parameters be well-formed and let the reference
`.str ref` render to `R` (in state `st`).  Whatever a multiply-defined parameter with that
reference as one of its layers renders to — a value or an error other than the model's own
"out of fuel" — the parameter with `R` written inline at that position renders to the same,
for all sufficiently large fuel.  And conversely. -/
theorem ref_layer_transparent {n N : Nat} {root : Mapping} {ref : Str} {R : Value}
    {st st1 : RState} {pre post : List Value} {res : Except Err (Value × RState)}
    (hr : WF root.toValue) (h : interp n root (.str ref) st = .ok (R, st1))
    (hne : res ≠ .error .fuel) :
    ((interp N root (.vl (pre ++ .str ref :: post)) st = res) →
      ∃ N', ∀ k, N' ≤ k → interp k root (.vl (pre ++ R :: post)) st = res) ∧
    ((interp N root (.vl (pre ++ R :: post)) st = res) →
      ∃ N', ∀ k, N' ≤ k → interp k root (.vl (pre ++ .str ref :: post)) st = res) := by
  let m := N + n + size R
  have hM : N ≤ m + 2 + pre.length := by omega
  have key := ref_layer_transparent_vl_at hr h (m := m) (by omega) (by omega) pre post
  -- up to that fuel, across `key`, and on to any larger fuel
  have lift : ∀ {v v' : Value},
      interp (m + 2 + pre.length) root v st = interp (m + 2 + pre.length) root v' st →
      interp N root v st = res → ∃ N', ∀ k, N' ≤ k → interp k root v' st = res :=
    fun e hN => ⟨_, fun k hk => interp_fuel_mono_le hk root _ st
      (e ▸ interp_fuel_mono_le hM root _ st hN hne) hne⟩
  exact ⟨lift key, lift key.symm⟩

/-! ### Non-vacuity -/

/-- JSON text of the rendered parameters (kernel-evaluable check of concrete renders). -/
def renderJson (n : Nat) (m : Mapping) : Option Str :=
  match renderParamsF n m with
  | .ok out => (match jsonOf out.toValue with | .ok s => some s | .error _ => none)
  | .error _ => none

/-- `d: {x: 1, y: 2}`; `p` is defined twice: `{x: 0, z: 9}` and `${d}`.  The reference layer
merges like the mapping it renders to … -/
example : renderJson 80
    ⟨[(.str "d".toList, .map [(.str "x".toList, .num (.int 1)), (.str "y".toList, .num (.int 2))] [] []),
      (.str "p".toList, .vl [.map [(.str "x".toList, .num (.int 0)), (.str "z".toList, .num (.int 9))] [] [],
                             .str "${d}".toList])], [], []⟩ =
    some "{\"d\":{\"x\":1,\"y\":2},\"p\":{\"x\":1,\"y\":2,\"z\":9}}".toList := by
  -- the kernel evaluates `String.toList` of a literal in quadratic time; this reads it off
  conv => rhs; rw [String.toList_ofList]
  decide +kernel

/-- … and this is what one gets with the rendered mapping written inline. -/
example : renderJson 80
    ⟨[(.str "d".toList, .map [(.str "x".toList, .num (.int 1)), (.str "y".toList, .num (.int 2))] [] []),
      (.str "p".toList, .vl [.map [(.str "x".toList, .num (.int 0)), (.str "z".toList, .num (.int 9))] [] [],
                             .map [(.str "x".toList, .num (.int 1)), (.str "y".toList, .num (.int 2))] [] []])],
     [], []⟩ =
    some "{\"d\":{\"x\":1,\"y\":2},\"p\":{\"x\":1,\"y\":2,\"z\":9}}".toList := by
  conv => rhs; rw [String.toList_ofList]
  decide +kernel

/-- A reference layer in first position, list values: `l: [1]`, `p: [${l}, [2]]` ⇒ `[1, 2]`. -/
example : renderJson 80
    ⟨[(.str "l".toList, .seq [.num (.int 1)]),
      (.str "p".toList, .vl [.str "${l}".toList, .seq [.num (.int 2)]])], [], []⟩ =
    some "{\"l\":[1],\"p\":[1,2]}".toList := by
  conv => rhs; rw [String.toList_ofList]
  decide +kernel

/-- The hypothesis of `ref_layer_transparent` is satisfiable: the reference `${d}` renders to the
mapping `d` (with canonical, here empty, flag lists). -/
example : (match interp 30
      ⟨[(.str "d".toList, .map [(.str "x".toList, .num (.int 1))] [] [])], [], []⟩
      (.str "${d}".toList) {} with
    | .ok (r, _) => (match jsonOf r with | .ok s => some s | .error _ => none)
    | .error _ => none) = some "{\"x\":1}".toList := by decide +kernel

/-- `Canon` is inhabited by a mapping with flags, and excludes flags on absent keys. -/
example : Canon (.map [(.str "a".toList, .null), (.str "b".toList, .null)] [.str "b".toList] []) := by
  rw [canon_map]; refine ⟨by simp [CanonEs, Reclass.Canon], by decide, by decide⟩

example : ¬ Canon (.map [(.str "a".toList, .null)] [.str "zz".toList] []) := by
  rw [canon_map]; intro h; exact absurd h.2.1 (by decide)

end C04
end Reclass
