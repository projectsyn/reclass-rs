/-
  C13 — The full inventory contains exactly the discovered nodes; its class index and
  application index map each name to the sorted list of exactly those nodes whose rendered
  class list / application list contains it, with no empty or stale entries.  Rendering the
  inventory fails iff rendering some node fails, and the error names a node that fails.

  All statements are about the model function `Inventory.render` (`Inventory::render`,
  `src/inventory.rs`) applied to the list `results` of `(node name, per-node result)` pairs in
  *any* iteration order and of *any* length.  `ixLookup c ix` is the list stored under key `c` in
  an index (`[]` if absent).
-/
import Reclass.Lemmas.InventoryL
namespace Reclass
namespace C13

/-- "Sorted" for a stored node list: ascending in the code-point order of `String`. -/
abbrev Sorted (l : List Str) : Prop := l.Pairwise (fun a b => strLe a b = true)

/-- Hypothesis of `lists_sorted_nodup`: no node lists a class or an application twice (true of the
`UniqueList` / `RemovableList` output, cf. C17). -/
def NoDupLists (results : List (Str × R NodeInfoM)) : Prop :=
  ∀ p ∈ results, ∀ info, p.2 = .ok info → info.classes.Nodup ∧ info.apps.Nodup

theorem NoDupLists.infos {results : List (Str × R NodeInfoM)} (hnd : NoDupLists results)
    {infos : List (Str × NodeInfoM)} (hi : results = infos.map okEntry) :
    ∀ p ∈ infos, p.2.classes.Nodup ∧ p.2.apps.Nodup :=
  fun p hp => hnd (okEntry p) (hi ▸ List.mem_map.2 ⟨p, hp, rfl⟩) p.2 rfl

/-! ### Failure -/

/-- **Rendering the inventory fails if and only if rendering some node fails.** -/
theorem fails_iff_some_node_fails (results : List (Str × R NodeInfoM)) :
    (∃ e, Inventory.render results = .error e) ↔ (∃ p ∈ results, ∃ e, p.2 = .error e) := by
  constructor
  · rintro ⟨e, h⟩
    obtain ⟨pre, name, e', post, hr, _⟩ := collect_error_iff.1 h
    exact ⟨(name, .error e'), by rw [hr]; simp, e', rfl⟩
  · rintro ⟨p, hp, e, he⟩
    cases h : Inventory.render results with
    | error e0 => exact ⟨e0, rfl⟩
    | ok inv =>
      obtain ⟨infos, hi, _⟩ := render_ok_inv h
      rw [hi, List.mem_map] at hp
      obtain ⟨q, _, rfl⟩ := hp
      simp [okEntry] at he

/-- **The error names a node that fails**, and carries that node's own error. -/
theorem error_names_failing_node {results : List (Str × R NodeInfoM)} {e : Err}
    (h : Inventory.render results = .error e) :
    ∃ name e', e = .nodeFailed name e' ∧ (name, .error e') ∈ results := by
  obtain ⟨pre, name, e', post, hr, he⟩ := collect_error_iff.1 h
  exact ⟨name, e', he, by rw [hr]; simp⟩

/-- Sharper: the error is that of the *first* failing node in iteration order — everything
before it succeeded.  (With a hash map the iteration order is arbitrary, so which failing node
is reported is not determined when several fail; see the examples at the end.) -/
theorem error_names_first_failing_node {results : List (Str × R NodeInfoM)} {e : Err} :
    Inventory.render results = .error e ↔
      ∃ (pre : List (Str × NodeInfoM)) (name : Str) (e' : Err) (post : List (Str × R NodeInfoM)),
        results = pre.map okEntry ++ (name, .error e') :: post ∧ e = .nodeFailed name e' :=
  collect_error_iff

/-- If every node renders, the inventory renders. -/
theorem succeeds_of_all_nodes_succeed {results : List (Str × R NodeInfoM)}
    (h : ∀ p ∈ results, ∀ e, p.2 ≠ .error e) : ∃ inv, Inventory.render results = .ok inv :=
  collect_ok_of_all_ok {} h

/-! ### Nodes -/

/-- **The inventory contains exactly the discovered nodes**, in iteration order, and each stored
entry is the node's own result. -/
theorem nodes_exact {results : List (Str × R NodeInfoM)} {inv : InventoryM}
    (h : Inventory.render results = .ok inv) :
    inv.nodes.map Prod.fst = results.map Prod.fst ∧
    ∀ name info, (name, info) ∈ inv.nodes ↔ (name, .ok info) ∈ results := by
  obtain ⟨infos, hi, _, hn, _, _⟩ := render_ok_inv h
  rw [hn, hi]
  exact ⟨(map_fst_map_okEntry infos).symm, fun _ _ => mem_map_okEntry.symm⟩

/-- The stored node list *is* the result list (each result unwrapped), entry by entry. -/
theorem nodes_eq {results : List (Str × R NodeInfoM)} {inv : InventoryM}
    (h : Inventory.render results = .ok inv) :
    results = inv.nodes.map (fun p => (p.1, .ok p.2)) := by
  obtain ⟨infos, hi, _, hn, _, _⟩ := render_ok_inv h
  rw [hn, hi]; rfl

/-- With distinct discovered names, the stored names are distinct (the node map is a map). -/
theorem node_names_nodup {results : List (Str × R NodeInfoM)} {inv : InventoryM}
    (hd : (results.map Prod.fst).Nodup) (h : Inventory.render results = .ok inv) :
    (inv.nodes.map Prod.fst).Nodup := by
  rw [(nodes_exact h).1]; exact hd

/-! ### Class index -/

/-- **The class index is the inverse of the per-node class lists**: node `n` is listed under
class `c` iff `n` is a rendered node whose class list contains `c`. -/
theorem class_index_inverse {results : List (Str × R NodeInfoM)} {inv : InventoryM}
    (h : Inventory.render results = .ok inv) (c n : Str) :
    n ∈ ixLookup c inv.classes ↔ ∃ info, (n, .ok info) ∈ results ∧ c ∈ info.classes := by
  obtain ⟨infos, hi, _, _, hc, _⟩ := render_ok_inv h
  rw [hc, hi, mem_ixLookup_ixFold]
  simp only [mem_map_okEntry]

/-- **No stale keys**: `c` is a key of the class index iff some rendered node has class `c`. -/
theorem class_keys_exact {results : List (Str × R NodeInfoM)} {inv : InventoryM}
    (h : Inventory.render results = .ok inv) (c : Str) :
    c ∈ inv.classes.map Prod.fst ↔ ∃ n info, (n, .ok info) ∈ results ∧ c ∈ info.classes := by
  obtain ⟨infos, hi, _, _, hc, _⟩ := render_ok_inv h
  rw [hc, hi, mem_keys_ixFold_nil]
  simp only [mem_map_okEntry]

/-- **Index keys are unique** (so "the list stored under `c`" is well defined). -/
theorem class_keys_nodup {results : List (Str × R NodeInfoM)} {inv : InventoryM}
    (h : Inventory.render results = .ok inv) : (inv.classes.map Prod.fst).Nodup := by
  obtain ⟨infos, _, _, _, hc, _⟩ := render_ok_inv h
  rw [hc]; exact nodup_keys_ixFold_nil _ _

/-- Every entry `(c, ns)` of the class index is the one `ixLookup` finds. -/
theorem class_entry_eq_lookup {results : List (Str × R NodeInfoM)} {inv : InventoryM}
    (h : Inventory.render results = .ok inv) {c : Str} {ns : List Str} (hm : (c, ns) ∈ inv.classes) :
    ixLookup c inv.classes = ns :=
  ixLookup_eq_of_mem (class_keys_nodup h) hm

/-! ### Application index -/

/-- **The application index is the inverse of the per-node application lists.** -/
theorem app_index_inverse {results : List (Str × R NodeInfoM)} {inv : InventoryM}
    (h : Inventory.render results = .ok inv) (a n : Str) :
    n ∈ ixLookup a inv.apps ↔ ∃ info, (n, .ok info) ∈ results ∧ a ∈ info.apps := by
  obtain ⟨infos, hi, _, _, _, ha⟩ := render_ok_inv h
  rw [ha, hi, mem_ixLookup_ixFold]
  simp only [mem_map_okEntry]

/-- **No stale keys**: `a` is a key of the application index iff some rendered node has it. -/
theorem app_keys_exact {results : List (Str × R NodeInfoM)} {inv : InventoryM}
    (h : Inventory.render results = .ok inv) (a : Str) :
    a ∈ inv.apps.map Prod.fst ↔ ∃ n info, (n, .ok info) ∈ results ∧ a ∈ info.apps := by
  obtain ⟨infos, hi, _, _, _, ha⟩ := render_ok_inv h
  rw [ha, hi, mem_keys_ixFold_nil]
  simp only [mem_map_okEntry]

/-- **Index keys are unique.** -/
theorem app_keys_nodup {results : List (Str × R NodeInfoM)} {inv : InventoryM}
    (h : Inventory.render results = .ok inv) : (inv.apps.map Prod.fst).Nodup := by
  obtain ⟨infos, _, _, _, _, ha⟩ := render_ok_inv h
  rw [ha]; exact nodup_keys_ixFold_nil _ _

/-- Every entry `(a, ns)` of the application index is the one `ixLookup` finds. -/
theorem app_entry_eq_lookup {results : List (Str × R NodeInfoM)} {inv : InventoryM}
    (h : Inventory.render results = .ok inv) {a : Str} {ns : List Str} (hm : (a, ns) ∈ inv.apps) :
    ixLookup a inv.apps = ns :=
  ixLookup_eq_of_mem (app_keys_nodup h) hm

/-! ### No empty entries, sortedness, no duplicates -/

/-- **No empty entries**: every list stored in either index is non-empty. -/
theorem no_empty_entries {results : List (Str × R NodeInfoM)} {inv : InventoryM}
    (h : Inventory.render results = .ok inv) :
    (∀ p ∈ inv.classes, p.2 ≠ []) ∧ (∀ p ∈ inv.apps, p.2 ≠ []) := by
  obtain ⟨infos, _, _, _, hc, ha⟩ := render_ok_inv h
  rw [hc, ha]
  exact ⟨nonempty_ixFold_nil _ _, nonempty_ixFold_nil _ _⟩

/-- **Every stored list is sorted** (no hypothesis), **and duplicate-free** provided the node
names are distinct and no node lists a class / application twice. -/
theorem lists_sorted_nodup {results : List (Str × R NodeInfoM)} {inv : InventoryM}
    (h : Inventory.render results = .ok inv) :
    ((∀ p ∈ inv.classes, Sorted p.2) ∧ (∀ p ∈ inv.apps, Sorted p.2)) ∧
    ((results.map Prod.fst).Nodup → NoDupLists results →
      (∀ p ∈ inv.classes, p.2.Nodup) ∧ (∀ p ∈ inv.apps, p.2.Nodup)) := by
  obtain ⟨infos, hi, _, _, hc, ha⟩ := render_ok_inv h
  rw [hc, ha]
  refine ⟨⟨sorted_ixFold_nil _ _, sorted_ixFold_nil _ _⟩, ?_⟩
  intro hd hnd
  rw [hi, map_fst_map_okEntry] at hd
  have hnd' := hnd.infos hi
  exact ⟨nodup_entry_ixFold hd (fun p hp => (hnd' p hp).1),
         nodup_entry_ixFold hd (fun p hp => (hnd' p hp).2)⟩

/-- The sort is the canonical one: what is stored under `c` is *the* sorted arrangement
(`sortStrs = List.mergeSort` w.r.t. `strLe`, a total order, so the arrangement is unique) of the
names of the stored nodes that have class `c` — closed form, under the hypothesis `NoDupLists`.
Same for applications. -/
theorem index_closed_form {results : List (Str × R NodeInfoM)} {inv : InventoryM}
    (h : Inventory.render results = .ok inv) (hnd : NoDupLists results) (k : Str) :
    ixLookup k inv.classes =
      sortStrs ((inv.nodes.filter (fun p => decide (k ∈ p.2.classes))).map Prod.fst) ∧
    ixLookup k inv.apps =
      sortStrs ((inv.nodes.filter (fun p => decide (k ∈ p.2.apps))).map Prod.fst) := by
  obtain ⟨infos, hi, _, hn, hc, ha⟩ := render_ok_inv h
  have hnd' := hnd.infos hi
  rw [hc, ha, hn, ixLookup_ixFold_eq, ixLookup_ixFold_eq,
    occ_eq_filter (fun p hp => (hnd' p hp).1), occ_eq_filter (fun p hp => (hnd' p hp).2)]
  exact ⟨rfl, rfl⟩

/-- The order used for sorting is a total order on strings (so "sorted" pins down the list). -/
theorem strLe_total_order :
    (∀ a b : Str, strLe a b = true ∨ strLe b a = true) ∧
    (∀ a b c : Str, strLe a b = true → strLe b c = true → strLe a c = true) ∧
    (∀ a b : Str, strLe a b = true → strLe b a = true → a = b) :=
  ⟨fun a b => by simpa using strLe_total a b, strLe_trans, fun _ _ => strLe_antisymm⟩

/-! ### Non-vacuity -/

section Examples

private def n1 : NodeInfoM :=
  { nmeta := {}, apps := ["a1".toList], classes := ["c1".toList, "c2".toList], params := {} }
private def n2 : NodeInfoM :=
  { nmeta := {}, apps := ["a1".toList, "a2".toList], classes := ["c2".toList], params := {} }
private def n3 : NodeInfoM :=
  { nmeta := {}, apps := [], classes := ["c3".toList, "c1".toList], params := {} }
/-- A node that lists class `c1` twice (not producible by the class-list model, cf. C17). -/
private def nDup : NodeInfoM :=
  { nmeta := {}, apps := [], classes := ["c1".toList, "c1".toList], params := {} }

private def results3 : List (Str × R NodeInfoM) :=
  [("n2".toList, .ok n2), ("n3".toList, .ok n3), ("n1".toList, .ok n1)]

private def classesOf (r : R InventoryM) : List (Str × List Str) :=
  match r with | .ok inv => inv.classes | .error _ => []
private def appsOf (r : R InventoryM) : List (Str × List Str) :=
  match r with | .ok inv => inv.apps | .error _ => []
private def namesOf (r : R InventoryM) : List Str :=
  match r with | .ok inv => inv.nodes.map Prod.fst | .error _ => []
private def failedNode (r : R InventoryM) : Option Str :=
  match r with | .error (.nodeFailed n _) => some n | _ => none

/-- The hypotheses of all theorems are satisfiable together. -/
example : (∃ inv, Inventory.render results3 = .ok inv) ∧ (results3.map Prod.fst).Nodup ∧
    NoDupLists results3 := by
  refine ⟨⟨_, rfl⟩, by decide, ?_⟩
  intro p hp info hi
  simp only [results3, List.mem_cons, List.not_mem_nil, or_false] at hp
  rcases hp with rfl | rfl | rfl <;> cases hi <;> exact ⟨by decide, by decide⟩

/-- The indices of the three-node inventory: sorted node lists under every class. -/
example : classesOf (Inventory.render results3) =
    [("c2".toList, ["n1".toList, "n2".toList]), ("c3".toList, ["n3".toList]),
     ("c1".toList, ["n1".toList, "n3".toList])] := by
  simp only [Inventory.render, results3, Inventory.collect, sortAll, sortStrs_eq_insSort, classesOf]
  decide +kernel

example : appsOf (Inventory.render results3) =
    [("a1".toList, ["n1".toList, "n2".toList]), ("a2".toList, ["n2".toList])] := by
  simp only [Inventory.render, results3, Inventory.collect, sortAll, sortStrs_eq_insSort, appsOf]
  decide +kernel

example : namesOf (Inventory.render results3) = ["n2".toList, "n3".toList, "n1".toList] := by
  decide +kernel

example (inv : InventoryM) (h : Inventory.render results3 = .ok inv) :
    "n3".toList ∈ ixLookup "c1".toList inv.classes ∧ "n2".toList ∉ ixLookup "c1".toList inv.classes := by
  constructor
  · exact (class_index_inverse h _ _).2 ⟨n3, by simp [results3], by decide⟩
  · intro hm
    obtain ⟨info, hi, hc⟩ := (class_index_inverse h _ _).1 hm
    simp only [results3, List.mem_cons, Prod.mk.injEq, List.not_mem_nil, or_false] at hi
    rcases hi with ⟨_, hi⟩ | ⟨hn, _⟩ | ⟨hn, _⟩
    · cases hi; revert hc; decide
    · revert hn; decide
    · revert hn; decide

/-- A failing node makes the inventory fail with that node's name ... -/
example : failedNode (Inventory.render
    [("n1".toList, .ok n1), ("bad".toList, .error .loop), ("n2".toList, .ok n2)]) = some "bad".toList := by
  decide

/-- ... and with two failing nodes the reported one depends on the iteration order. -/
example : failedNode (Inventory.render [("x".toList, .error .loop), ("y".toList, .error .fuel)]) = some "x".toList ∧
    failedNode (Inventory.render [("y".toList, .error .fuel), ("x".toList, .error .loop)]) = some "y".toList := by
  decide

/-- The `NoDupLists` hypothesis of `lists_sorted_nodup` is needed: a node listing a class twice is
listed twice under that class. -/
example : classesOf (Inventory.render [("n".toList, .ok nDup)]) = [("c1".toList, ["n".toList, "n".toList])] := by
  simp only [Inventory.render, Inventory.collect, sortAll, sortStrs_eq_insSort, classesOf]
  decide +kernel

/-- The distinct-names hypothesis is needed too (the Rust node map has distinct keys by
construction; the model's list of pairs does not). -/
example : classesOf (Inventory.render [("n".toList, .ok n2), ("n".toList, .ok n2)]) =
    [("c2".toList, ["n".toList, "n".toList])] := by
  simp only [Inventory.render, Inventory.collect, sortAll, sortStrs_eq_insSort, classesOf]
  decide +kernel

end Examples

end C13
end Reclass
