/-
  C02 (part a) — The kind table of `Value::merge` (`src/types/value.rs`), for all contents of the
  values and every resolve state `st` (which only supplies the parameter path `st.curKey`
  quoted in conflict errors).  In `mergeV a b st`, `a` is the merge *target* (`self`, already
  flattened — never a `String` or a `ValueList` in the Rust code), `b` the layer merged *over* it.
-/
import Reclass.Lemmas.MappingL
import Reclass.Model.Eval
import Reclass.Lemmas.EvalEq
namespace Reclass
namespace C02

/-- Scalars as far as `merge` is concerned: `Literal`, `Bool`, `Number` (the `_ =>` arm of the
Rust `match self`). -/
def isScalar : Value → Bool
  | .lit _ | .bool _ | .num _ => true
  | _ => false

def IsConflictAt (st : RState) (r : R Value) : Prop :=
  ∃ over onto, r = .error (.mergeConflict st.curKey over onto)

/-! ### Unfolding -/

/-- For a layer that is neither null nor a layer list, `mergeV` is `mergeNonVl`. -/
theorem mergeV_eq_mergeNonVl (a b : Value) (st : RState)
    (hn : b.isNull = false) (hv : b.isVl = false) : mergeV a b st = mergeNonVl a b st :=
  mergeV_of_not_vl hn hv a st

/-! ### Rows with null -/

/-- `null` over anything is `null`. -/
theorem merge_null_over (a : Value) (st : RState) : mergeV a .null st = .ok .null :=
  mergeV_null a st

/-- Anything (not null, not a layer list) over `null` is that thing. -/
theorem merge_over_null (b : Value) (st : RState) (hn : b.isNull = false) (hv : b.isVl = false) :
    mergeV .null b st = .ok b := by
  rw [mergeV_eq_mergeNonVl _ _ _ hn hv]; rfl

/-! ### The diagonal -/

/-- Sequence over sequence: concatenation. -/
theorem merge_seq_seq (s s' : List Value) (st : RState) :
    mergeV (.seq s) (.seq s') st = .ok (.seq (s ++ s')) := by
  rw [mergeV_eq_mergeNonVl _ _ _ rfl rfl]; rfl

/-- Mapping over mapping: `Mapping::merge`, errors passed through. -/
theorem merge_map_map (es es' : List (Key × Value)) (ck ok ck' ok' : List Key) (st : RState) :
    mergeV (.map es ck ok) (.map es' ck' ok') st =
      match Mapping.merge ⟨es, ck, ok⟩ ⟨es', ck', ok'⟩ with
      | .error e => .error e
      | .ok m => .ok m.toValue := by
  rw [mergeV_eq_mergeNonVl _ _ _ rfl rfl]; rfl

/-- The same with `Except.map`. -/
theorem merge_map_map' (m m' : Mapping) (st : RState) :
    mergeV m.toValue m'.toValue st = (m.merge m').map Mapping.toValue := by
  obtain ⟨es, ck, ok⟩ := m
  obtain ⟨es', ck', ok'⟩ := m'
  simp only [Mapping.toValue]
  rw [merge_map_map]
  cases Mapping.merge ⟨es, ck, ok⟩ ⟨es', ck', ok'⟩ <;> rfl

/-- Scalar over scalar: the new one wins. -/
theorem merge_scalar_scalar (a b : Value) (st : RState) (ha : isScalar a = true) (hb : isScalar b = true) :
    mergeV a b st = .ok b := by
  cases a <;> simp [isScalar] at ha <;> cases b <;> simp [isScalar] at hb <;> rfl

/-- An unparsed `String` over a scalar also just replaces it. -/
theorem merge_str_over_scalar (a : Value) (s : Str) (st : RState) (ha : isScalar a = true) :
    mergeV a (.str s) st = .ok (.str s) := by
  cases a <;> simp [isScalar] at ha <;> rfl

/-! ### Conflicts -/

/-- Mapping target, layer is a sequence, literal, bool, number or string: conflict. -/
theorem merge_map_conflict (es : List (Key × Value)) (ck ok : List Key) (b : Value) (st : RState)
    (hn : b.isNull = false) (hv : b.isVl = false) (hm : b.isMap = false) :
    mergeV (.map es ck ok) b st = .error (.mergeConflict st.curKey b.kind "mapping".toList) := by
  rw [mergeV_eq_mergeNonVl _ _ _ hn hv]
  cases b <;> first | rfl | simp [Value.isMap] at hm

/-- Sequence target, layer is a mapping, literal, bool, number or string: conflict. -/
theorem merge_seq_conflict (s : List Value) (b : Value) (st : RState)
    (hn : b.isNull = false) (hv : b.isVl = false) (hs : b.isSeq = false) :
    mergeV (.seq s) b st = .error (.mergeConflict st.curKey b.kind "sequence".toList) := by
  rw [mergeV_eq_mergeNonVl _ _ _ hn hv]
  cases b <;> first | rfl | simp [Value.isSeq] at hs

/-- Scalar target, layer is a mapping or a sequence: conflict. -/
theorem merge_scalar_conflict (a b : Value) (st : RState) (ha : isScalar a = true)
    (hb : b.isMap = true ∨ b.isSeq = true) :
    mergeV a b st = .error (.mergeConflict st.curKey b.kind a.kind) := by
  have hn : b.isNull = false := by cases b <;> simp [Value.isMap, Value.isSeq] at hb <;> rfl
  have hv : b.isVl = false := by cases b <;> simp [Value.isMap, Value.isSeq] at hb <;> rfl
  rw [mergeV_eq_mergeNonVl _ _ _ hn hv]
  have hcond : (b.isMap || b.isSeq) = true := by rcases hb with h | h <;> simp [h]
  cases a <;> simp [isScalar] at ha <;> simp [mergeNonVl, hcond]

theorem merge_map_seq (es : List (Key × Value)) (ck ok : List Key) (s : List Value) (st : RState) :
    mergeV (.map es ck ok) (.seq s) st =
      .error (.mergeConflict st.curKey "Value::Sequence".toList "mapping".toList) :=
  merge_map_conflict es ck ok (.seq s) st rfl rfl rfl

theorem merge_seq_map (s : List Value) (es : List (Key × Value)) (ck ok : List Key) (st : RState) :
    mergeV (.seq s) (.map es ck ok) st =
      .error (.mergeConflict st.curKey "Value::Mapping".toList "sequence".toList) :=
  merge_seq_conflict s (.map es ck ok) st rfl rfl rfl

/-! ### Layer lists on the right -/

/-- A layer list is first folded (from `null`) and the result merged as a non-layer value. -/
theorem merge_vl_right (a : Value) (l : List Value) (st : RState) :
    mergeV a (.vl l) st =
      match flatVl l .null st with
      | .error e => .error e
      | .ok o => mergeNonVl a o st := by
  simp only [mergeV]
  cases flatVl l .null st <;> rfl

/-! ### Targets that must not occur -/

/-- A `String` or a `ValueList` as merge *target* is the Rust `unreachable!`: the model reports
the panic site (for any layer that is neither null nor a layer list). -/
theorem merge_target_str (s : Str) (b : Value) (st : RState) (hn : b.isNull = false) (hv : b.isVl = false) :
    mergeV (.str s) b st = .error (.panic .mergeTargetStr) := by
  rw [mergeV_eq_mergeNonVl _ _ _ hn hv]; rfl

theorem merge_target_vl (l : List Value) (b : Value) (st : RState) (hn : b.isNull = false) (hv : b.isVl = false) :
    mergeV (.vl l) b st = .error (.panic .mergeTargetVl) := by
  rw [mergeV_eq_mergeNonVl _ _ _ hn hv]; rfl

/-! ### Summary -/

/-- **No silent kind change for containers.**  If the target is a mapping or a sequence, the
layer is not null, not a layer list and of a different kind, the merge is a conflict error at
the current path.  If the target is a scalar and the layer is a mapping or a sequence,
likewise.  (The only kind changes that succeed are: `null` over anything, anything over `null`,
and scalar/string over scalar.) -/
theorem conflict_never_silent (a b : Value) (st : RState) :
    ((a.isMap = true ∨ a.isSeq = true) → b.isNull = false → b.isVl = false → a.kind ≠ b.kind →
        IsConflictAt st (mergeV a b st)) ∧
    (isScalar a = true → (b.isMap = true ∨ b.isSeq = true) → IsConflictAt st (mergeV a b st)) := by
  constructor
  · intro ha hn hv hk
    cases a with
    | map es ck ok =>
      refine ⟨_, _, merge_map_conflict es ck ok b st hn hv ?_⟩
      cases b <;> first | rfl | exact absurd rfl hk
    | seq s =>
      refine ⟨_, _, merge_seq_conflict s b st hn hv ?_⟩
      cases b <;> first | rfl | exact absurd rfl hk
    | _ => simp [Value.isMap, Value.isSeq] at ha
  · intro ha hb
    exact ⟨_, _, merge_scalar_conflict a b st ha hb⟩

/-- The converse for the modelled targets: with a mapping / sequence / scalar target and a layer
that is neither null nor a layer list, a successful merge means the kinds were compatible:
same container kind, or scalar target with a non-container layer. -/
theorem ok_kinds_compatible (a b r : Value) (st : RState)
    (hn : b.isNull = false) (hv : b.isVl = false) (h : mergeV a b st = .ok r) :
    a.isNull = true ∨ (a.isMap = true ∧ b.isMap = true) ∨ (a.isSeq = true ∧ b.isSeq = true) ∨
      (isScalar a = true ∧ b.isMap = false ∧ b.isSeq = false) := by
  rw [mergeV_eq_mergeNonVl _ _ _ hn hv] at h
  rcases mergeNonVl_ok h with ⟨rfl, -⟩ | ⟨_, _, _, _, _, _, _, rfl, rfl, -, -⟩ |
    ⟨_, _, rfl, rfl, -⟩ | ⟨ha, hm, hs, -⟩
  · exact .inl rfl
  · exact .inr (.inl ⟨rfl, rfl⟩)
  · exact .inr (.inr (.inl ⟨rfl, rfl⟩))
  · refine .inr (.inr (.inr ⟨?_, hm, hs⟩))
    rcases ha with ⟨_, rfl⟩ | ⟨_, rfl⟩ | ⟨_, rfl⟩ <;> rfl

/-! ### Non-vacuity -/

example (st : RState) : mergeV (.seq [.null]) (.seq [.bool true]) st = .ok (.seq [.null, .bool true]) :=
  merge_seq_seq _ _ _

example : mergeV (.map [] [] []) (.num (.int 1)) {} =
    .error (.mergeConflict [] "Value::Number".toList "mapping".toList) := rfl

example : mergeV (.seq []) (.map [] [] []) { cur := ["a".toList, "b".toList] } =
    .error (.mergeConflict "a.b".toList "Value::Mapping".toList "sequence".toList) := rfl

example : mergeV (.bool true) (.seq []) {} =
    .error (.mergeConflict [] "Value::Sequence".toList "Value::Bool".toList) := rfl

example : mergeV (.bool true) (.num (.int 3)) {} = .ok (.num (.int 3)) := rfl

-- a layer list on the right is folded first: [1, null, {}] folds to {}, which conflicts with a sequence
example : mergeV (.seq []) (.vl [.num (.int 1), .null, .map [] [] []]) {} =
    .error (.mergeConflict [] "Value::Mapping".toList "sequence".toList) := rfl

-- hypotheses of `conflict_never_silent` are satisfiable
example : (Value.map [] [] []).kind ≠ (Value.seq []).kind := by decide +kernel

end C02
end Reclass
