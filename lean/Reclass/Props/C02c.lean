/-
  C02c — The deep-merge refinement with constant keys at the top level of the layers.  The layers
  are as the class walk really stores them: reference-free values, clean and distinct stored
  keys, **any** constant-key set `m.ck` and any override-key set `m.ok`
  (`C02b.override_refines` has no constant keys).
-/
import Reclass.Lemmas.DeepMergeCL
import Reclass.Props.C02b
namespace Reclass
namespace C02c
open DeepMerge

/-- A stored layer of parameters with reference-free, flag-free values, clean and distinct keys,
and arbitrary constant-key and override-key sets. -/
def ConstLayer (m : Mapping) : Prop := RefFreeEs m.es ∧ (keys m.es).Nodup

theorem overrideLayer_erase {m : Mapping} (h : ConstLayer m) : OverrideLayer (eraseCkLayer m) :=
  ⟨h.1, h.2, rfl⟩

/-- Merging such layers with `Mapping::merge` either fails, and then with a constant-key error,
or succeeds, and then rendering gives — for all sufficiently large fuel — exactly the entries
of `deepParamsO` of the layers.  The specification does not look at constant flags: a constant
marking can veto a stack, it can never change what a stack that passes renders to. -/
theorem const_refines {ms : List Mapping} (h : ∀ m ∈ ms, ConstLayer m) :
    (∀ e, mergeLayers {} ms = .error e → ∃ k, e = .constKey k) ∧
    (∀ b, mergeLayers {} ms = .ok b →
      ∃ N, ∀ n, N ≤ n →
        (renderParamsF n b).map Mapping.es = deepParamsO (ms.map normLayer)) := by
  refine ⟨fun e he => C09d.stack_error_is_constKey {} ms e he, ?_⟩
  intro b hb
  obtain ⟨r', hr', hd, _⟩ := mergeLayers_eraseCk ms {} {} b (fun m hm => (h m hm).1) ⟨rfl, rfl⟩ rfl hb
  obtain ⟨es, okl, a, hsemi, hnd, -, habs⟩ := mergeLayers_simO [] (ms.map eraseCkLayer) [] []
    (by
      intro m hm
      obtain ⟨m0, hm0, rfl⟩ := List.mem_map.1 hm
      exact overrideLayer_erase (h m0 hm0)) trivial (by simp)
  have a' : mergeLayers {} (ms.map eraseCkLayer) = .ok ⟨es, [], okl⟩ := a
  rw [a'] at hr'
  cases hr'
  obtain ⟨hes, hok⟩ := hd
  have hbeq : b = ⟨es, b.ck, okl⟩ := by
    cases b; simp only at hes hok; subst hes; subst hok; rfl
  obtain ⟨N, cN⟩ := renderParams_settlesC b.ck okl hsemi hnd
  dsimp only at cN
  refine ⟨N, fun n hn => ?_⟩
  rw [hbeq]
  rw [cN n hn, habs]
  show resolveEs (mergedParamsO ((ms.map eraseCkLayer).map normLayer)) = _
  rw [mergedParamsO_eraseCk]
  rfl

/-- The same for every amount of fuel with which the run finishes. -/
theorem const_refines_finished {ms : List Mapping} (h : ∀ m ∈ ms, ConstLayer m) (b : Mapping)
    (hb : mergeLayers {} ms = .ok b) (n : Nat) (hn : renderParamsF n b ≠ .error .fuel) :
    (renderParamsF n b).map Mapping.es = deepParamsO (ms.map normLayer) :=
  settles_finished (f := fun n => renderParamsF n b) (Except.map Mapping.es)
    ((const_refines h).2 b hb) (fun a c hac hne => bind_renderParams_mono (.ok b) a c hac hne) hn

/-- A layer without constant flags over a base without constant flags never fails: constant
markings are the only source of failure while merging class layers. -/
theorem no_const_no_failure {ms : List Mapping} (h : ∀ m ∈ ms, ConstLayer m)
    (hck : ∀ m ∈ ms, m.ck = []) : ∃ b, mergeLayers {} ms = .ok b := by
  obtain ⟨es, okl, a, _⟩ := mergeLayers_simO [] ms [] []
    (fun m hm => ⟨(h m hm).1, (h m hm).2, hck m hm⟩) trivial (by simp)
  exact ⟨_, a⟩

/-! ### Non-vacuity -/

private def kA : Key := .str "a".toList
private def kB : Key := .str "b".toList
private def one : Value := .num (.int 1)
private def two : Value := .num (.int 2)
/-- `{=a: 1, b: {x: 1}}` as stored. -/
private def l1 : Mapping := { es := [(kA, one), (kB, .map [(.str "x".toList, one)] [] [])], ck := [kA] }
/-- `{b: {y: 2}}`. -/
private def l2 : Mapping := { es := [(kB, .map [(.str "y".toList, two)] [] [])] }
/-- `{a: 2}`. -/
private def l3 : Mapping := { es := [(kA, two)] }

example : ConstLayer l1 ∧ ConstLayer l2 ∧ ConstLayer l3 := by
  refine ⟨⟨?_, by decide +kernel⟩, ⟨?_, by decide +kernel⟩, ⟨?_, by decide +kernel⟩⟩ <;>
    simp [l1, l2, l3, RefFreeEs, RefFree, kA, kB, one, two, CleanKey] <;> decide
example : ∃ b, mergeLayers {} [l1, l2] = .ok b ∧ kA ∈ b.ck := ⟨_, rfl, by decide⟩
example : mergeLayers {} [l1, l2, l3] = .error (.constKey kA) := by decide +kernel

end C02c
end Reclass
