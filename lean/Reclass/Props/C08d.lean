/-
  C08d — A reference cycle that passes through a container embedded in a string is a loop.

  `Props/C08.cycle_is_loop` covers cycles of whole-value references.  Here the cycle closes
  through a *mixed* string inside a mapping: `a: {b: "x-${a}"}` — the string embeds the mapping
  that contains it.  Resolving `${a}` yields the raw mapping, which is interpolated and
  flattened before its text is taken (`interpolate_token_slice`), **with the resolve state of
  the reference** (seen paths and depth); inside, the same string meets `${a}` again while `a`
  is in the seen set.
-/
import Reclass.Props.C08
import Reclass.Props.C05c
namespace Reclass
namespace C08d

theorem seen_ref_piece_loops (k : Nat) (root : Mapping) (a : Str) (st : RState)
    (hs : a ∈ st.seen) (hd : st.depth + 1 ≤ maxDepth) :
    tokResolve (k+3) root (.ref [.lit a]) st = .error .loop := by
  rw [tokResolve_ref, slice_single_lit]
  have hd' : ¬ (st.depth + 1 > maxDepth) := by omega
  simp only [hd', if_false, hs, if_true]

theorem lit_then_error {k : Nat} {root : Mapping} {x : Str} {t : Token} {st : RState} {e : Err}
    (hp : C05.pieceText k root t st = .error e) : slice (k+2) root [.lit x, t] st = .error e := by
  rw [C05.slice_step, C05.literal_piece_text]
  simp only
  rw [C05.slice_error_first hp]

theorem pieces_with_seen_ref_loop (k : Nat) (root : Mapping) (x a : Str) (st : RState)
    (hs : a ∈ st.seen) (hd : st.depth + 1 ≤ maxDepth) :
    slice (k+5) root [.lit x, .ref [.lit a]] st = .error .loop := by
  refine lit_then_error ?_
  unfold C05.pieceText
  rw [seen_ref_piece_loops k root a st hs hd]

theorem mixed_string_with_seen_ref_loops (k : Nat) (root : Mapping) (s x a : Str) (st : RState)
    (hparse : Token.parse s = .ok (some (.combined [.lit x, .ref [.lit a]])))
    (hs : a ∈ st.seen) (hd : st.depth + 1 ≤ maxDepth) :
    interp (k+8) root (.str s) st = .error .loop := by
  rw [C05.mixed_string_renders_concat (k+5) root s _ st hparse,
    pieces_with_seen_ref_loop k root x a st hs hd]

/-- A mapping whose first entry is the string `x${a}`: the other entries are never reached. -/
theorem container_with_seen_ref_loops (k : Nat) (root : Mapping) (s x a : Str) (b : Key)
    (rest : List (Key × Value)) (ck ok : List Key) (st : RState)
    (hparse : Token.parse s = .ok (some (.combined [.lit x, .ref [.lit a]])))
    (hs : a ∈ st.seen) (hd : st.depth + 1 ≤ maxDepth) :
    interp (k+10) root (.map ((b, .str s) :: rest) ck ok) st = .error .loop := by
  rw [interp_map, interpEs_cons,
    mixed_string_with_seen_ref_loops k root s x a (st.pushMappingKey b) hparse hs hd]

/-- The mixed string `x${a}` where `a` is not on the chain and holds a container `v0`: the string
fails with whatever interpolating `v0`, with `a` added to the chain, fails with. -/
theorem mixed_string_container_error {k : Nat} {root : Mapping} {s x a : Str} {v0 : Value}
    {st : RState} {e : Err}
    (hparse : Token.parse s = .ok (some (.combined [.lit x, .ref [.lit a]])))
    (hcolon : ':' ∉ a) (hget : root.get (.str a) = some v0)
    (hc : (v0.isMap || v0.isSeq) = true) (hd : st.depth + 1 ≤ maxDepth) (hs : a ∉ st.seen)
    (h : interp (k+2) root v0 { st with depth := st.depth + 1, seen := a :: st.seen } = .error e) :
    interp (k+8) root (.str s) st = .error e := by
  have h1 : v0.isStr = false := by cases v0 <;> first | rfl | cases hc
  have h2 : v0.isVl = false := by cases v0 <;> first | rfl | cases hc
  have hp : C05.pieceText (k+3) root (.ref [.lit a]) st = .error e := by
    unfold C05.pieceText
    rw [tokResolve_ref_lit k st hcolon hget, if_neg (Nat.not_lt.2 hd), if_neg hs, finalLoop_succ, h1, h2]
    simp only [strLoop_succ, h1, Bool.or_self, Bool.false_eq_true, if_false, sliceFinish_succ, hc,
      if_true, h]
  rw [C05.mixed_string_renders_concat (k+5) root s _ st hparse, lit_then_error hp]

/-- **`a: {b: "x${a}", …}` is a loop.**  `s` is the text of the entry `b` of the mapping at `a`
and parses to the literal `x` followed by the reference to `a` (no `:` in `a`).  Rendering `s`
from any state that leaves room for two resolutions gives `Err.loop`, for every fuel ≥ 20,
whatever else the mapping and the root contain. -/
theorem embedded_container_cycle_is_loop (root : Mapping) (s x a : Str) (b : Key)
    (rest : List (Key × Value)) (ck ok : List Key) (st : RState)
    (hparse : Token.parse s = .ok (some (.combined [.lit x, .ref [.lit a]])))
    (hcolon : ':' ∉ a)
    (hget : root.get (.str a) = some (.map ((b, .str s) :: rest) ck ok))
    (hd : st.depth + 2 ≤ maxDepth) (n : Nat) (hn : 20 ≤ n) :
    interp n root (.str s) st = .error .loop := by
  refine interp_fuel_mono_le hn root _ st ?_ (by simp)
  by_cases hs : a ∈ st.seen
  · exact mixed_string_with_seen_ref_loops 12 root s x a st hparse hs (by omega)
  · exact mixed_string_container_error (k := 12) hparse hcolon hget rfl (by omega) hs
      (container_with_seen_ref_loops 4 root s x a b rest ck ok _ hparse List.mem_cons_self
        (by simp only; omega))

theorem pushListIndex_seen_depth (st : RState) (i : Nat) :
    (st.pushListIndex i).seen = st.seen ∧ (st.pushListIndex i).depth = st.depth := by
  unfold RState.pushListIndex
  split <;> exact ⟨rfl, rfl⟩

/-- **`items: ["${summary}", …]`, `summary: "x${items}"` is a loop**: the mixed string embeds a list
whose first element is a whole-value reference back to the string.  From any state with room for
three resolutions and for every fuel ≥ 30. -/
theorem embedded_list_cycle_is_loop (root : Mapping) (sMix sRef x items summary : Str)
    (restL : List Value) (st : RState)
    (hpMix : Token.parse sMix = .ok (some (.combined [.lit x, .ref [.lit items]])))
    (hpRef : Token.parse sRef = .ok (some (.ref [.lit summary])))
    (hc1 : ':' ∉ items) (hc2 : ':' ∉ summary)
    (hgI : root.get (.str items) = some (.seq (.str sRef :: restL)))
    (hgS : root.get (.str summary) = some (.str sMix))
    (hd : st.depth + 3 ≤ maxDepth) (n : Nat) (hn : 30 ≤ n) :
    interp n root (.str sMix) st = .error .loop := by
  refine interp_fuel_mono_le hn root _ st ?_ (by simp)
  by_cases hs : items ∈ st.seen
  · exact mixed_string_with_seen_ref_loops 22 root sMix x items st hpMix hs (by omega)
  · refine mixed_string_container_error (k := 22) hpMix hc1 hgI rfl (by omega) hs ?_
    -- the list is interpolated with the state of the reference to `items`
    rw [interp_seq, interpL_cons]
    obtain ⟨hse, hde⟩ := pushListIndex_seen_depth
      ({ st with depth := st.depth + 1, seen := items :: st.seen } : RState) 0
    generalize ({ st with depth := st.depth + 1, seen := items :: st.seen } : RState).pushListIndex 0
      = st1 at hse hde ⊢
    simp only at hse hde
    have hinner : interp 22 root (.str sRef) st1 = .error .loop := by
      rw [interp_wholeRef 16 root sRef summary st1 _ hpRef hc2 hgS, if_neg (by omega)]
      split
      · rfl
      · rw [finalLoop_succ, if_pos (by rfl), mixed_string_with_seen_ref_loops 10 root sMix x items
          { st1 with depth := st1.depth + 1, seen := summary :: st1.seen } hpMix
          (by simp only [hse]; exact List.mem_cons_of_mem _ List.mem_cons_self)
          (by simp only; omega)]
    rw [hinner]

/-! ### Non-vacuity: `a: {b: "x-${a}"}` -/

private def sx : Str := "x-".toList ++ '$' :: '{' :: ("a".toList ++ '}' :: [])

private theorem sx_parses : Token.parse sx = .ok (some (.combined [.lit "x-".toList, .ref [.lit "a".toList]])) :=
  C05c.padded_ref_parses_combined "x-".toList "a".toList [] (by decide) (by decide) (by decide) (by simp)
    (Or.inl (by decide))

private def exRoot : Mapping := { es := [(.str "a".toList, .map [(.str "b".toList, .str sx)] [] [])] }

example (n : Nat) (hn : 20 ≤ n) : interp n exRoot (.str sx) {} = .error .loop :=
  embedded_container_cycle_is_loop exRoot sx "x-".toList "a".toList (.str "b".toList) [] [] [] {}
    sx_parses (by decide) rfl (by decide) n hn

end C08d
end Reclass
