/-
  C01c — An include entry acts only through the name it resolves to.

  "An include entry that contains references is resolved against the parameters merged from
  the classes that precede it and loads exactly the one class it resolves to" — and "merging
  each class the first time it is reached and never again" is decided on that *resolved* name;
  the *spelling* of the entry (escaped, reference-bearing, plain) is never compared with anything.
-/
import Reclass.Props.C01
import Reclass.Props.C06
namespace Reclass
namespace C01c

/-- The walk uses an entry only through `resolveClassName`. -/
theorem walk_entry_congr (n : Nat) (r : Inv) (loc : Option (List Str)) (e e' : Str)
    (rest seen : List Str) (root : NodeM)
    (h : resolveClassName defaultFuel root.params e = resolveClassName defaultFuel root.params e') :
    walkClasses (n+1) r loc (e :: rest) seen root = walkClasses (n+1) r loc (e' :: rest) seen root := by
  rw [C01.entry_resolves_once, C01.entry_resolves_once, h]

/-- What decides "already merged" is the resolved name `c`, not the entry's text: with `c`
unseen and defined, the class is loaded and walked — also when the raw entry `e` itself is an
element of `seen`. -/
theorem raw_spelling_in_seen_is_irrelevant (n : Nat) (r : Inv) (loc : Option (List Str)) (e c : Str)
    (rest seen : List Str) (root : NodeM) (cn : NodeM)
    (_he : e ∈ seen)
    (hres : resolveClassName defaultFuel root.params e = .ok c) (hc : c ∉ seen)
    (hrd : readClass r loc c = .ok (some cn)) :
    walkClasses (n+1) r loc (e :: rest) seen root =
      match renderImpl n r cn (seen ++ [c]) root with
      | .error e => .error e
      | .ok (seen', root') => walkClasses n r loc rest seen' root' := by
  rw [C01.entry_resolves_once, hres]
  simp only [hc, if_false, hrd]
  cases renderImpl n r cn (seen ++ [c]) root <;> rfl

/-- An entry resolving to a seen name is skipped, whatever its own text. -/
theorem resolved_in_seen_is_skipped (n : Nat) (r : Inv) (loc : Option (List Str)) (e c : Str)
    (rest seen : List Str) (root : NodeM)
    (hres : resolveClassName defaultFuel root.params e = .ok c) (hc : c ∈ seen) :
    walkClasses (n+1) r loc (e :: rest) seen root = walkClasses n r loc rest seen root := by
  rw [C01.entry_resolves_once, hres]
  simp only [hc, if_true]

/-- An entry that contains `${`, all of them escaped, resolves to its unescaped text for any
parameters: `\${x}` names the class literally called `${x}`.  (An entry without any `${` is used
as written — `C01.entry_without_reference` — even if it contains `\$[`.) -/
theorem escaped_entry_names_literal_class (n : Nat) (params : Mapping) (s : Str)
    (hc : strContains s Extracted.classRefMarker.toList = true)
    (hm : containsMarker s = true) (h : ∀ i, C06.unescapedOpenAt s i = false) :
    resolveClassName (n + 2) params s = .ok (C06.unescape s) := by
  -- the entry parses to the literal token `unescape s` (`C06.escaped_only_literal`); rendering a
  -- literal takes one step of `tokRender` and one of `tokResolve`, hence the fuel `n + 2`
  simp [resolveClassName, hc, C06.escaped_only_literal s hm h, tokRender, tokResolve, rawString]

/-- With `lit` in the seen list (as after the escaped entry `\${x}` loaded the class literally
named `${x}`), a later entry whose text is exactly `lit` and which is a genuine reference is still
resolved against the accumulated parameters and loads the class `c` it resolves to. -/
theorem escaped_then_reference (n : Nat) (r : Inv) (loc : Option (List Str)) (lit c : Str)
    (rest seen : List Str) (root : NodeM) (cn : NodeM)
    (hseen : lit ∈ seen)
    (hres : resolveClassName defaultFuel root.params lit = .ok c) (hc : c ∉ seen)
    (hrd : readClass r loc c = .ok (some cn)) :
    walkClasses (n+1) r loc (lit :: rest) seen root =
      match renderImpl n r cn (seen ++ [c]) root with
      | .error e => .error e
      | .ok (seen', root') => walkClasses n r loc rest seen' root' :=
  raw_spelling_in_seen_is_irrelevant n r loc lit c rest seen root cn hseen hres hc hrd

/-! ### Non-vacuity -/

private def esc : Str := ['\\', '$', '{', 'x', '}']   -- the text `\${x}`

example : strContains esc Extracted.classRefMarker.toList = true := by decide +kernel
example : containsMarker esc = true := by decide +kernel
example : C06.unescape esc = ['$', '{', 'x', '}'] := by decide +kernel

end C01c
end Reclass
