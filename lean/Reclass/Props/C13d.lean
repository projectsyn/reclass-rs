/-
  C13d — The two indexes are built independently of each other.

  The application index is a function of the nodes' names and application lists only, the class
  index of their names and class lists only: a string that is both a class name and an
  application name (a class `nginx` that enables the application `nginx`) is indexed twice, once
  in each index, and what one index contains never influences the other.
-/
import Reclass.Props.C13
namespace Reclass
namespace C13d

def setClasses (g : Str → NodeInfoM → List Str) (p : Str × R NodeInfoM) : Str × R NodeInfoM :=
  match p with
  | (name, .ok info) => (name, .ok { info with classes := g name info })
  | (name, .error e) => (name, .error e)

def setApps (g : Str → NodeInfoM → List Str) (p : Str × R NodeInfoM) : Str × R NodeInfoM :=
  match p with
  | (name, .ok info) => (name, .ok { info with apps := g name info })
  | (name, .error e) => (name, .error e)

/-- The two runs end alike: both succeed with equal application indexes, or both fail at the same
node.  Written as a `match` on both outcomes so that the induction covers failing runs too; the
theorem below uses the `.ok, .ok` arm and refutes the mixed ones. -/
theorem collect_apps_indep (g : Str → NodeInfoM → List Str) :
    ∀ (results : List (Str × R NodeInfoM)) (a b : InventoryM), a.apps = b.apps →
      match Inventory.collect results a, Inventory.collect (results.map (setClasses g)) b with
      | .ok x, .ok y => x.apps = y.apps
      | .error (.nodeFailed n _), .error (.nodeFailed n' _) => n = n'
      | _, _ => False
  | [], a, b, h => by simpa [Inventory.collect] using h
  | (name, .error e) :: rest, a, b, _ => by simp [Inventory.collect, setClasses]
  | (name, .ok info) :: rest, a, b, h => by
    simp only [List.map_cons, setClasses, Inventory.collect]
    exact collect_apps_indep g rest _ _ (by simp [h])

/-- **The application index does not depend on the class lists.** -/
theorem apps_index_independent_of_class_lists (g : Str → NodeInfoM → List Str)
    (results : List (Str × R NodeInfoM)) (inv : InventoryM)
    (h : Inventory.render results = .ok inv) :
    ∃ inv', Inventory.render (results.map (setClasses g)) = .ok inv' ∧ inv'.apps = inv.apps := by
  have key := collect_apps_indep g results {} {} rfl
  unfold Inventory.render at h ⊢
  rw [h] at key
  cases h2 : Inventory.collect (results.map (setClasses g)) {} with
  | error e => simp [h2] at key
  | ok y =>
    simp only [h2] at key
    exact ⟨y, rfl, key.symm⟩

/-- `collect_apps_indep` with the roles swapped. -/
theorem collect_classes_indep (g : Str → NodeInfoM → List Str) :
    ∀ (results : List (Str × R NodeInfoM)) (a b : InventoryM), a.classes = b.classes →
      match Inventory.collect results a, Inventory.collect (results.map (setApps g)) b with
      | .ok x, .ok y => x.classes = y.classes
      | .error (.nodeFailed n _), .error (.nodeFailed n' _) => n = n'
      | _, _ => False
  | [], a, b, h => by simpa [Inventory.collect] using h
  | (name, .error e) :: rest, a, b, _ => by simp [Inventory.collect, setApps]
  | (name, .ok info) :: rest, a, b, h => by
    simp only [List.map_cons, setApps, Inventory.collect]
    exact collect_classes_indep g rest _ _ (by simp [h])

/-- **The class index does not depend on the application lists.** -/
theorem class_index_independent_of_app_lists (g : Str → NodeInfoM → List Str)
    (results : List (Str × R NodeInfoM)) (inv : InventoryM)
    (h : Inventory.render results = .ok inv) :
    ∃ inv', Inventory.render (results.map (setApps g)) = .ok inv' ∧ inv'.classes = inv.classes := by
  have key := collect_classes_indep g results {} {} rfl
  unfold Inventory.render at h ⊢
  rw [h] at key
  cases h2 : Inventory.collect (results.map (setApps g)) {} with
  | error e => simp [h2] at key
  | ok y =>
    simp only [h2] at key
    exact ⟨y, rfl, key.symm⟩

/-! ### Non-vacuity: a class and an application both called `nginx` on two nodes -/

private def nm (s : String) : Str := s.toList
private def mk (n : String) : Str × R NodeInfoM :=
  (nm n, .ok { nmeta := default, apps := [nm "nginx"], classes := [nm "nginx"], params := {} })

example : ∃ inv, Inventory.render [mk "a", mk "b"] = .ok inv ∧
    inv.apps.map (·.1) = [nm "nginx"] ∧ inv.classes.map (·.1) = [nm "nginx"] := ⟨_, rfl, rfl, rfl⟩

end C13d
end Reclass
