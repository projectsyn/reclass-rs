/-
  C05c — A reference padded with text is text.  A string that holds exactly one reference with
  anything around it — also if the surrounding text is only whitespace (a leading blank, a
  trailing tab, the newline a YAML block scalar ends with) — is a *mixed* string: it renders to
  a literal string that begins with the text before the reference and ends with the text after
  it (what stands in between the theorems leave open).  The padding is never dropped and the
  referenced value's type is never kept.
-/
import Reclass.Props.C05
import Reclass.Props.C06
namespace Reclass
namespace C05c
open C05 C06

theorem lit_piece {k : Nat} {root : Mapping} {st : RState} {s x : Str}
    (h : pieceText k root (.lit s) st = .ok x) : x = s := by
  cases k with
  | zero => simp [pieceText, tokResolve] at h
  | succ k =>
    rw [literal_piece_text] at h
    cases h; rfl

/-- The pieces of `pre${path}post`. -/
def padPieces (pre path post : Str) : List Token := litOpt pre ++ [.ref [.lit path]] ++ litOpt post

theorem padded_ref_parses_combined (pre path post : Str)
    (hpre : ∀ c ∈ pre, c ≠ '$' ∧ c ≠ '\\')
    (hpath : ∀ c ∈ path, c ≠ '$' ∧ c ≠ '\\' ∧ c ≠ '}') (hne : path ≠ [])
    (hpost : ∀ c ∈ post, c ≠ '$' ∧ c ≠ '\\') (hpad : pre ≠ [] ∨ post ≠ []) :
    Token.parse (pre ++ '$' :: '{' :: (path ++ '}' :: post)) =
      .ok (some (.combined (padPieces pre path post))) := by
  rw [simple_ref_accepted pre path post hpre hpath hne hpost]
  unfold padPieces litOpt
  by_cases h1 : pre = [] <;> by_cases h2 : post = [] <;> simp [h1, h2, pack] at hpad ⊢

theorem piecesAt_append {n : Nat} {root : Mapping} {st : RState} {us : List Token} :
    ∀ {ts : List Token} {xs : List Str}, PiecesAt n root st (ts ++ us) xs →
      ∃ ys zs, xs = ys ++ zs ∧ PiecesAt n root st ts ys ∧ PiecesAt n root st us zs
  | [], xs, h => ⟨[], xs, rfl, .nil, h⟩
  | _ :: _, _, .cons hx h =>
    have ⟨ys, zs, e, hy, hz⟩ := piecesAt_append h
    ⟨_ :: ys, zs, by rw [e]; rfl, .cons hx hy, hz⟩

theorem piecesAt_litOpt {n : Nat} {root : Mapping} {st : RState} {s : Str} {xs : List Str}
    (h : PiecesAt n root st (litOpt s) xs) : xs.flatten = s := by
  unfold litOpt at h
  split at h
  · next hs => cases h; exact hs.symm
  · cases h with
    | cons hx hr => cases hr; simp [lit_piece hx]

/-- The text of the pieces: the padding as written around the text of the reference. -/
theorem padPieces_text {n : Nat} {root : Mapping} {st : RState} {pre path post s : Str}
    (h : slice n root (padPieces pre path post) st = .ok s) :
    ∃ t, s = pre ++ t ++ post := by
  obtain ⟨texts, hp, rfl⟩ := slice_eq_concat_uniform h
  obtain ⟨_, zs, rfl, hp, hz⟩ := piecesAt_append hp
  obtain ⟨xs, _, rfl, hx, hy⟩ := piecesAt_append hp
  cases hy with
  | @cons _ _ t _ _ hr =>
    cases hr
    exact ⟨t, by simp [piecesAt_litOpt hx, piecesAt_litOpt hz]⟩

/-- **A padded reference renders to text**: a literal string that starts with `pre`, ends with
`post`; the resolve state of the caller is untouched. -/
theorem padded_reference_is_text (pre path post : Str)
    (hpre : ∀ c ∈ pre, c ≠ '$' ∧ c ≠ '\\')
    (hpath : ∀ c ∈ path, c ≠ '$' ∧ c ≠ '\\' ∧ c ≠ '}') (hne : path ≠ [])
    (hpost : ∀ c ∈ post, c ≠ '$' ∧ c ≠ '\\') (hpad : pre ≠ [] ∨ post ≠ [])
    {n : Nat} {root : Mapping} {st st' : RState} {v : Value}
    (h : interp n root (.str (pre ++ '$' :: '{' :: (path ++ '}' :: post))) st = .ok (v, st')) :
    ∃ t, v = .lit (pre ++ t ++ post) ∧ st' = st := by
  cases n with
  | zero => simp [interp] at h
  | succ m =>
    simp only [interp, padded_ref_parses_combined pre path post hpre hpath hne hpost hpad] at h
    obtain ⟨s, hv, hst, hs⟩ := combined_renders_literal' h
    obtain ⟨t, ht⟩ := padPieces_text hs
    exact ⟨t, by rw [hv, ht], hst⟩

/-- … so it is never a typed value. -/
theorem padded_reference_never_typed (pre path post : Str)
    (hpre : ∀ c ∈ pre, c ≠ '$' ∧ c ≠ '\\')
    (hpath : ∀ c ∈ path, c ≠ '$' ∧ c ≠ '\\' ∧ c ≠ '}') (hne : path ≠ [])
    (hpost : ∀ c ∈ post, c ≠ '$' ∧ c ≠ '\\') (hpad : pre ≠ [] ∨ post ≠ [])
    {n : Nat} {root : Mapping} {st st' : RState} {v : Value}
    (h : interp n root (.str (pre ++ '$' :: '{' :: (path ++ '}' :: post))) st = .ok (v, st')) :
    (∀ x, v ≠ .num x) ∧ (∀ b, v ≠ .bool b) ∧ v ≠ .null ∧ (∀ es ck ok, v ≠ .map es ck ok) ∧ (∀ l, v ≠ .seq l) := by
  obtain ⟨t, hv, _⟩ := padded_reference_is_text pre path post hpre hpath hne hpost hpad h
  subst hv
  refine ⟨?_, ?_, ?_, ?_, ?_⟩ <;> intros <;> simp

/-! ### Non-vacuity: ` ${n}` (one leading blank) -/

example : (∀ c ∈ [' '], c ≠ '$' ∧ c ≠ '\\') ∧ (∀ c ∈ ['n'], c ≠ '$' ∧ c ≠ '\\' ∧ c ≠ '}') ∧
    (([' '] : Str) ≠ [] ∨ ([] : Str) ≠ []) := by
  refine ⟨by decide, by decide, Or.inl (by decide)⟩
example : Token.parse ([' '] ++ '$' :: '{' :: (['n'] ++ '}' :: [])) =
    .ok (some (.combined [.lit [' '], .ref [.lit ['n']]])) :=
  padded_ref_parses_combined [' '] ['n'] [] (by decide) (by decide) (by decide) (by simp) (Or.inl (by decide))

end C05c
end Reclass
