/-
  C10 — Override keys (`~key`).  All statements are about the model functions
  `Mapping.insertImpl`, `Mapping.merge`, `combine` (`src/types/mapping.rs`), for every mapping,
  key and value.  Vocabulary as in C09: stripped key `k.stripPrefix.1`, prefix `k.stripPrefix.2`.
-/
import Reclass.Lemmas.MappingL
import Reclass.Lemmas.DecEq
namespace Reclass
namespace C10

/-! ### 1. `~k` on a present key replaces the value in place -/

/-- Stripped key present and not constant, written with `~` (or with `forceOverride`): the
new value itself is stored (no layer list), at the old position, siblings and the
`override_keys` set are untouched. -/
theorem insert_override_replaces (m : Mapping) (k k0 : Key) (v old : Value) (fc fo : Bool)
    (hs : k.stripPrefix.1 = k0) (hl : lookup k0 m.es = some old) (hc : k0 ∉ m.ck)
    (hp : k.stripPrefix.2 = some .override ∨ fo = true) :
    ∃ m', m.insertImpl k v fc fo = .ok m' ∧
      m'.es = replaceVal k0 v m.es ∧
      lookup k0 m'.es = some v ∧
      m'.es.map Prod.fst = m.es.map Prod.fst ∧
      (∀ k1, k1 ≠ k0 → lookup k1 m'.es = lookup k1 m.es) ∧
      m'.ok = m.ok := by
  subst hs
  have hcond : (fo || decide (k.stripPrefix.2 = some KeyPrefix.override)) = true := by
    rcases hp with hp | hp <;> simp [hp]
  refine ⟨_, insertImpl_present v fc fo hl hc, ?_, ?_, ?_, ?_, rfl⟩
  · simp only [hcond, if_true]
  · simp only [hcond, if_true]; exact lookup_replaceVal_self hl v
  · simp only [hcond, if_true]; exact replaceVal_keys _ _ _
  · intro k1 hne; simp only [hcond, if_true]; exact lookup_replaceVal_ne hne _ _

/-- A pure `~` write (no forced const) leaves `const_keys` alone too. -/
theorem insert_override_replaces_ck (m m' : Mapping) (k : Key) (v old : Value) (fo : Bool)
    (hl : lookup k.stripPrefix.1 m.es = some old)
    (hp : k.stripPrefix.2 = some .override)
    (h : m.insertImpl k v false fo = .ok m') : m'.ck = m.ck := by
  have hc : k.stripPrefix.1 ∉ m.ck := by
    intro hc; rw [insertImpl_const v false fo hl hc] at h; cases h
  rw [insertImpl_present v false fo hl hc] at h
  injection h with h; subst h
  simp [hp]

/-! ### 2. `~k` on an absent key: inserted, and the override is remembered -/

/-- Stripped key absent, written with `~` (or `forceOverride`): appended at the end and
recorded in `override_keys` (a pending override that fires when this mapping is merged
into another one). -/
theorem insert_override_absent (m : Mapping) (k k0 : Key) (v : Value) (fc fo : Bool)
    (hs : k.stripPrefix.1 = k0) (hl : lookup k0 m.es = none)
    (hp : k.stripPrefix.2 = some .override ∨ fo = true) :
    ∃ m', m.insertImpl k v fc fo = .ok m' ∧ m'.es = m.es ++ [(k0, v)] ∧ k0 ∈ m'.ok := by
  subst hs
  have h := insertImpl_absent v fc fo hl
  exact ⟨_, h, rfl, (insertImpl_mem_ok h _).2 (.inr ⟨rfl, hl, hp⟩)⟩

/-- Whenever an override write succeeds, the stripped key holds exactly the written value. -/
theorem insert_override_ok_lookup (m m' : Mapping) (k : Key) (v : Value) (fc fo : Bool)
    (hp : k.stripPrefix.2 = some .override ∨ fo = true)
    (h : m.insertImpl k v fc fo = .ok m') : lookup k.stripPrefix.1 m'.es = some v := by
  cases hl : lookup k.stripPrefix.1 m.es with
  | none =>
    obtain ⟨m2, h2, hes, _⟩ := insert_override_absent m k _ v fc fo rfl hl hp
    rw [h] at h2; injection h2 with h2; subst h2
    rw [hes]; exact lookup_append_single_self hl v
  | some old =>
    have hc : k.stripPrefix.1 ∉ m.ck := by
      intro hc; rw [insertImpl_const v fc fo hl hc] at h; cases h
    obtain ⟨m2, h2, _, hlk, _⟩ := insert_override_replaces m k _ v old fc fo rfl hl hc hp
    rw [h] at h2; injection h2 with h2; subst h2
    exact hlk

/-! ### 3. Without override the values are collected into a layer list -/

/-- The layers a value stands for: a layer list's elements, otherwise the value itself. -/
def layersOf : Value → List Value
  | .vl l => l
  | v => [v]

/-- `combine` always returns a layer list. -/
theorem combine_is_vl (old v : Value) : combine old v = .vl (layersOf old ++ layersOf v) := by
  cases old <;> cases v <;> rfl

/-- `combine` concatenates layers: old's layers first, then the new value's. -/
theorem combine_layers (old v : Value) : layersOf (combine old v) = layersOf old ++ layersOf v := by
  rw [combine_is_vl]; rfl

/-- Stripped key present, not constant, no override of either kind: the stored value becomes
the layer list `combine old v`, in place; siblings untouched. -/
theorem insert_plain_collects (m : Mapping) (k k0 : Key) (v old : Value) (fc : Bool)
    (hs : k.stripPrefix.1 = k0) (hl : lookup k0 m.es = some old) (hc : k0 ∉ m.ck)
    (hp : k.stripPrefix.2 ≠ some .override) :
    ∃ m', m.insertImpl k v fc false = .ok m' ∧
      lookup k0 m'.es = some (combine old v) ∧
      lookup k0 m'.es = some (.vl (layersOf old ++ layersOf v)) ∧
      m'.es.map Prod.fst = m.es.map Prod.fst ∧
      (∀ k1, k1 ≠ k0 → lookup k1 m'.es = lookup k1 m.es) ∧
      m'.ok = m.ok := by
  subst hs
  have hcond : (false || decide (k.stripPrefix.2 = some KeyPrefix.override)) = false := by
    simp [hp]
  have hlk : lookup k.stripPrefix.1 (replaceVal k.stripPrefix.1 (combine old v) m.es)
      = some (combine old v) := lookup_replaceVal_self hl _
  refine ⟨_, insertImpl_present v fc false hl hc, ?_, ?_, ?_, ?_, rfl⟩
  · simp only [hcond]; exact hlk
  · simp only [hcond]; rw [← combine_is_vl]; exact hlk
  · simp only [hcond]; exact replaceVal_keys _ _ _
  · intro k1 hne; simp only [hcond]; exact lookup_replaceVal_ne hne _ _

/-! ### 4. A pending override fires when the mapping is merged -/

/-- `other = {~k: v}` as stored (key `k` in `other.ok`), merged into a mapping where `k` is
present and not constant: `k` now holds `v` itself. -/
theorem pending_fires_on_merge (m other : Mapping) (k : Key) (v old : Value)
    (hok : k ∈ other.ok) (hes : other.es = [(k, v)]) (hs : k.stripPrefix = (k, none))
    (hl : lookup k m.es = some old) (hc : k ∉ m.ck) :
    ∃ m', m.merge other = .ok m' ∧ lookup k m'.es = some v ∧
      m'.es.map Prod.fst = m.es.map Prod.fst := by
  have hs1 : k.stripPrefix.1 = k := by rw [hs]
  rw [merge_eq, hes, mergeEntries_single]
  obtain ⟨m', h, _, hlk, hkeys, _⟩ :=
    C10.insert_override_replaces m k k v old (decide (k ∈ other.ck)) (decide (k ∈ other.ok)) hs1 hl hc
      (Or.inr (by simp [hok]))
  exact ⟨m', h, hlk, hkeys⟩

/-- Merging entries none of which has stripped key `k0` leaves `lookup k0` unchanged. -/
theorem mergeEntries_lookup_ne (ock ook : List Key) (k0 : Key) (es : List (Key × Value)) :
    ∀ (m m' : Mapping), (∀ e ∈ es, e.1.stripPrefix.1 ≠ k0) →
      m.mergeEntries ock ook es = .ok m' → lookup k0 m'.es = lookup k0 m.es := by
  intro m m' hall h
  rw [mergeEntries_eq_foldlM] at h
  exact foldlM_ok_inv (fun m1 => lookup k0 m1.es = lookup k0 m.es)
    (fun _ e _ he hm h1 => by rw [insertImpl_lookup_ne h1 (fun eq => hall e he eq.symm)]; exact hm)
    h rfl

/-- General form, any `other`: if the entry `(k, v)` of `other` is flagged in `other.ok` and no
later entry of `other` targets the same stripped key, then after a successful merge the
stripped key holds exactly `v` (whether or not it was present in the target before). -/
theorem pending_fires_on_merge_general (m other m' : Mapping) (k : Key) (v : Value)
    (pre post : List (Key × Value))
    (hok : k ∈ other.ok) (hes : other.es = pre ++ (k, v) :: post)
    (hpost : ∀ e ∈ post, e.1.stripPrefix.1 ≠ k.stripPrefix.1)
    (h : m.merge other = .ok m') : lookup k.stripPrefix.1 m'.es = some v := by
  rw [merge_eq, hes, mergeEntries_eq_foldlM] at h
  obtain ⟨m1, -, h⟩ := foldlM_append_ok.1 h
  obtain ⟨m2, h2, h⟩ := foldlM_cons_ok.1 h
  rw [mergeEntries_lookup_ne _ _ _ post m2 m' hpost (by rw [mergeEntries_eq_foldlM]; exact h)]
  exact insert_override_ok_lookup m1 m2 k v _ _ (Or.inr (by simp [hok])) h2

/-- The target's own `override_keys` are never consulted by `insertImpl`: replacing `m.ok` by
any other list gives the same outcome (same error, or same entries and same `const_keys`). -/
theorem target_flags_not_consulted (m : Mapping) (ok' : List Key) (k : Key) (v : Value) (fc fo : Bool) :
    (m.insertImpl k v fc fo).map (fun r => (r.es, r.ck)) =
      (({ m with ok := ok' } : Mapping).insertImpl k v fc fo).map (fun r => (r.es, r.ck)) := by
  rw [insertImpl_eq, insertImpl_eq]
  dsimp only
  cases lookup k.stripPrefix.1 m.es with
  | none => rfl
  | some old =>
    dsimp only
    by_cases hc : k.stripPrefix.1 ∈ m.ck
    · simp only [hc, if_true]
    · simp only [hc, if_false]; rfl

/-- Consequence: success does not depend on the target's `override_keys`, and neither do the
resulting entries and constant flags. -/
theorem target_flags_not_consulted_ok (m m' : Mapping) (ok' : List Key) (k : Key) (v : Value)
    (fc fo : Bool) (h : m.insertImpl k v fc fo = .ok m') :
    ∃ m2, ({ m with ok := ok' } : Mapping).insertImpl k v fc fo = .ok m2 ∧
      m2.es = m'.es ∧ m2.ck = m'.ck := by
  have := target_flags_not_consulted m ok' k v fc fo
  rw [h] at this
  cases h2 : ({ m with ok := ok' } : Mapping).insertImpl k v fc fo with
  | error e => rw [h2] at this; cases this
  | ok m2 =>
    rw [h2] at this
    simp only [Except.map] at this
    injection this with this
    injection this with h3 h4
    exact ⟨m2, rfl, h3.symm, h4.symm⟩

theorem target_flags_not_consulted_error (m : Mapping) (ok' : List Key) (k : Key) (v : Value)
    (fc fo : Bool) (e : Err) (h : m.insertImpl k v fc fo = .error e) :
    ({ m with ok := ok' } : Mapping).insertImpl k v fc fo = .error e := by
  have := target_flags_not_consulted m ok' k v fc fo
  rw [h] at this
  cases h2 : ({ m with ok := ok' } : Mapping).insertImpl k v fc fo with
  | error e2 =>
    rw [h2] at this
    simp only [Except.map] at this
    injection this with this; rw [this]
  | ok m2 => rw [h2] at this; cases this

/-! ### 5. The override does not leak to siblings -/

/-- Two writes with the same stripped key `k0` (e.g. `~k0` and `k0`; any values, any forced
flags) succeed or fail together … -/
theorem override_same_success (m : Mapping) (k k' : Key) (v v' : Value) (fc fo fc' fo' : Bool)
    (hs : k.stripPrefix.1 = k'.stripPrefix.1) :
    (∃ m1, m.insertImpl k v fc fo = .ok m1) ↔ (∃ m2, m.insertImpl k' v' fc' fo' = .ok m2) := by
  cases hl : lookup k.stripPrefix.1 m.es with
  | none =>
    have hl' := hl; rw [hs] at hl'
    exact ⟨fun _ => ⟨_, insertImpl_absent v' fc' fo' hl'⟩, fun _ => ⟨_, insertImpl_absent v fc fo hl⟩⟩
  | some old =>
    have hl' := hl; rw [hs] at hl'
    by_cases hc : k.stripPrefix.1 ∈ m.ck
    · have hc' := hc; rw [hs] at hc'
      rw [insertImpl_const v fc fo hl hc, insertImpl_const v' fc' fo' hl' hc']
      constructor <;> (intro ⟨_, h⟩; cases h)
    · have hc' := hc; rw [hs] at hc'
      exact ⟨fun _ => ⟨_, insertImpl_present v' fc' fo' hl' hc'⟩,
             fun _ => ⟨_, insertImpl_present v fc fo hl hc⟩⟩

/-- … and agree on the value and on both flags of every other key `k1`. -/
theorem override_no_leak (m m1 m2 : Mapping) (k k' k0 k1 : Key) (v v' : Value) (fc fo fc' fo' : Bool)
    (hs : k.stripPrefix.1 = k0) (hs' : k'.stripPrefix.1 = k0) (hne : k1 ≠ k0)
    (h1 : m.insertImpl k v fc fo = .ok m1) (h2 : m.insertImpl k' v' fc' fo' = .ok m2) :
    lookup k1 m1.es = lookup k1 m2.es ∧ (k1 ∈ m1.ck ↔ k1 ∈ m2.ck) ∧ (k1 ∈ m1.ok ↔ k1 ∈ m2.ok) := by
  subst hs
  have hne' : k1 ≠ k'.stripPrefix.1 := by rw [hs']; exact hne
  refine ⟨?_, ?_, ?_⟩
  · rw [insertImpl_lookup_ne h1 hne, insertImpl_lookup_ne h2 hne']
  · rw [insertImpl_ck_ne h1 hne, insertImpl_ck_ne h2 hne']
  · rw [insertImpl_ok_ne h1 hne, insertImpl_ok_ne h2 hne']

/-- The marker form: `~s` versus `s` for text `s` that does not itself start with a marker. -/
theorem override_no_leak_marker (m m1 m2 : Mapping) (s : Str) (k1 : Key) (v : Value) (fc fo : Bool)
    (hs1 : s.head? ≠ some '=') (hs2 : s.head? ≠ some '~') (hne : k1 ≠ .str s)
    (h1 : m.insertImpl (.str ('~' :: s)) v fc fo = .ok m1)
    (h2 : m.insertImpl (.str s) v fc fo = .ok m2) :
    lookup k1 m1.es = lookup k1 m2.es ∧ (k1 ∈ m1.ck ↔ k1 ∈ m2.ck) ∧ (k1 ∈ m1.ok ↔ k1 ∈ m2.ok) :=
  override_no_leak m m1 m2 _ _ (.str s) k1 v v fc fo fc fo
    (by rw [stripPrefix_override]) (by rw [stripPrefix_str_of_head hs1 hs2]) hne h1 h2

/-! ### Non-vacuity -/

/-- `{a: 1, b: 2}`, no flags. -/
private def mAB : Mapping :=
  { es := [(.str "a".toList, .num (.int 1)), (.str "b".toList, .num (.int 2))] }

-- `~a: 9` replaces in place, `b` untouched, nothing pending
example : mAB.insertImpl (.str "~a".toList) (.num (.int 9)) false false =
    .ok { es := [(.str "a".toList, .num (.int 9)), (.str "b".toList, .num (.int 2))] } := by decide +kernel

-- `a: 9` without override collects a layer list
example : mAB.insertImpl (.str "a".toList) (.num (.int 9)) false false =
    .ok { es := [(.str "a".toList, .vl [.num (.int 1), .num (.int 9)]), (.str "b".toList, .num (.int 2))] } := by decide +kernel

-- `~c: 3` on an absent key is appended and pending
example : mAB.insertImpl (.str "~c".toList) (.num (.int 3)) false false =
    .ok { es := mAB.es ++ [(.str "c".toList, .num (.int 3))], ok := [.str "c".toList] } := by decide +kernel

-- the pending override fires on merge: `{a: 1, b: 2}.merge {~a: 7}` (stored form)
example : mAB.merge { es := [(.str "a".toList, .num (.int 7))], ok := [.str "a".toList] } =
    .ok { es := [(.str "a".toList, .num (.int 7)), (.str "b".toList, .num (.int 2))] } := by decide +kernel

-- hypotheses of `pending_fires_on_merge` are satisfiable
example : (Key.str "a".toList).stripPrefix = (.str "a".toList, none) ∧
    lookup (.str "a".toList) mAB.es = some (.num (.int 1)) ∧ Key.str "a".toList ∉ mAB.ck := by
  decide +kernel

-- layers are concatenated, not nested
example : combine (.vl [.null, .bool true]) (.vl [.num (.int 1)]) = .vl [.null, .bool true, .num (.int 1)] := rfl
example : layersOf (combine (.bool true) (.num (.int 1))) = [.bool true, .num (.int 1)] := rfl

end C10
end Reclass
