/-
  C09 — Constant keys (`=key`).  All statements are about the model functions
  `Mapping.insertImpl`, `Mapping.merge` (`src/types/mapping.rs`) and `mergeV` / `mergeNonVl`
  (`Value::merge`, `src/types/value.rs`), for every mapping, key and value.  The *stripped key*
  of `k` is `k.stripPrefix.1`, its *prefix* is `k.stripPrefix.2` (`some .const` for a leading
  `=`, `some .override` for a leading `~`, only for `Key.str`); `m.ck` is `const_keys`, `m.ok`
  is `override_keys`.
-/
import Reclass.Lemmas.MappingL
import Reclass.Model.Eval
import Reclass.Lemmas.DecEq
namespace Reclass
namespace C09

/-! ### 1. Writing to a constant key is rejected -/

/-- Any write (plain, `=`, `~`, forced or not, any value) whose stripped key is present and
constant fails with `constKey`. -/
theorem insert_const_rejects (m : Mapping) (k k0 : Key) (v old : Value) (fc fo : Bool)
    (hs : k.stripPrefix.1 = k0) (hl : lookup k0 m.es = some old) (hc : k0 ∈ m.ck) :
    m.insertImpl k v fc fo = .error (.constKey k0) := by
  subst hs; exact insertImpl_const v fc fo hl hc

/-- The only way `insertImpl` fails is the constant-key rejection, and then the stripped key
is present and constant. -/
theorem insert_error_iff (m : Mapping) (k : Key) (v : Value) (fc fo : Bool) (e : Err) :
    m.insertImpl k v fc fo = .error e ↔
      (e = .constKey k.stripPrefix.1 ∧ (lookup k.stripPrefix.1 m.es).isSome ∧ k.stripPrefix.1 ∈ m.ck) := by
  cases hl : lookup k.stripPrefix.1 m.es with
  | none =>
    rw [insertImpl_absent v fc fo hl]
    simp
  | some old =>
    by_cases hc : k.stripPrefix.1 ∈ m.ck
    · rw [insertImpl_const v fc fo hl hc]
      simp only [Option.isSome_some, hc, and_true]
      constructor
      · intro h; injection h with h; exact h.symm
      · intro h; rw [h]
    · rw [insertImpl_present v fc fo hl hc]
      simp [hc]

/-! ### 2. A `=` write marks the key constant -/

/-- Inserting with prefix `=` (or with `forceConst`) into a mapping where the stripped key is
absent, or not constant, succeeds and the stripped key is constant afterwards. -/
theorem insert_marks_const (m : Mapping) (k k0 : Key) (v : Value) (fc fo : Bool)
    (hs : k.stripPrefix.1 = k0)
    (hp : k.stripPrefix.2 = some .const ∨ fc = true)
    (hfree : lookup k0 m.es = none ∨ k0 ∉ m.ck) :
    ∃ m', m.insertImpl k v fc fo = .ok m' ∧ k0 ∈ m'.ck := by
  subst hs
  cases h : m.insertImpl k v fc fo with
  | ok m' => exact ⟨m', rfl, (insertImpl_mem_ck h _).2 (.inr ⟨rfl, hp⟩)⟩
  | error e =>
    obtain ⟨-, hs, hc⟩ := (insert_error_iff m k v fc fo e).1 h
    rcases hfree with hl | hn
    · rw [hl] at hs; cases hs
    · exact absurd hc hn

/-- Whenever a `=`/forced-const insert succeeds, the stripped key is constant afterwards
(no assumption on the target). -/
theorem insert_ok_marks_const (m m' : Mapping) (k : Key) (v : Value) (fc fo : Bool)
    (hp : k.stripPrefix.2 = some .const ∨ fc = true)
    (h : m.insertImpl k v fc fo = .ok m') : k.stripPrefix.1 ∈ m'.ck :=
  (insertImpl_mem_ck h _).2 (.inr ⟨rfl, hp⟩)

/-! ### 3. Constness is permanent -/

/-- No successful insert (of any key) removes a constant flag. -/
theorem const_persists (m m' : Mapping) (k k0 : Key) (v : Value) (fc fo : Bool)
    (hk : k0 ∈ m.ck) (h : m.insertImpl k v fc fo = .ok m') : k0 ∈ m'.ck :=
  insertImpl_ck_mono h hk

/-- No successful merge removes a constant flag of the target. -/
theorem merge_keeps_const (m other m' : Mapping) (k0 : Key)
    (hk : k0 ∈ m.ck) (h : m.merge other = .ok m') : k0 ∈ m'.ck :=
  mergeEntries_ck_mono _ _ _ h hk

/-- A constant key that is present keeps *its value* through any successful merge: nothing can
have written to it. -/
theorem merge_keeps_const_value (m other m' : Mapping) (k0 : Key) (old : Value)
    (hk : k0 ∈ m.ck) (hl : lookup k0 m.es = some old) (h : m.merge other = .ok m') :
    lookup k0 m'.es = some old := by
  rw [merge_eq, mergeEntries_eq_foldlM] at h
  refine (foldlM_ok_inv (fun m => k0 ∈ m.ck ∧ lookup k0 m.es = some old) ?_ h ⟨hk, hl⟩).2
  intro m kv m1 _ ⟨hk, hl⟩ h1
  -- a successful step did not write to `k0`
  have hne : k0 ≠ kv.1.stripPrefix.1 := by
    intro e
    rw [insert_const_rejects m kv.1 k0 kv.2 old _ _ e.symm hl hk] at h1
    cases h1
  exact ⟨insertImpl_ck_mono h1 hk, by rw [insertImpl_lookup_ne h1 hne]; exact hl⟩

/-! ### 4. Constness of the merged-in mapping propagates -/

/-- General form: every entry `(k, v)` of `other` whose stored key is in `other.ck` makes its
stripped key constant in the result of a successful merge. -/
theorem merge_propagates_const_stripped (m other m' : Mapping) (k : Key) (v : Value)
    (hck : k ∈ other.ck) (hmem : (k, v) ∈ other.es) (h : m.merge other = .ok m') :
    k.stripPrefix.1 ∈ m'.ck := by
  obtain ⟨pre, post, hes⟩ := List.append_of_mem hmem
  rw [merge_eq, mergeEntries_eq_foldlM, hes] at h
  obtain ⟨m0, -, h⟩ := foldlM_append_ok.1 h
  obtain ⟨m1, h1, h⟩ := foldlM_cons_ok.1 h
  -- the step for `(k, v)` marks the key; the steps after it keep the mark
  exact foldlM_ok_inv (fun m => k.stripPrefix.1 ∈ m.ck) (fun _ _ _ _ hk h1 => insertImpl_ck_mono h1 hk)
    h (insert_ok_marks_const m0 m1 k v _ _ (Or.inr (by simp [hck])) h1)

/-- A constant stored key of `other` (stored keys are already stripped, so stripping is the
identity on it) is constant in the result of a successful merge. -/
theorem merge_propagates_const (m other m' : Mapping) (k : Key) (v : Value)
    (hck : k ∈ other.ck) (hl : lookup k other.es = some v) (hs : k.stripPrefix = (k, none))
    (h : m.merge other = .ok m') : k ∈ m'.ck := by
  have := merge_propagates_const_stripped m other m' k v hck (lookup_mem_entry hl) h
  rw [hs] at this; exact this

/-! ### 5. Constant in the target, written by `other`: the merge fails -/

/-- Every failure of `Mapping.merge` is a constant-key rejection. -/
theorem merge_error_is_constKey (m other : Mapping) (e : Err) (h : m.merge other = .error e) :
    ∃ k', e = .constKey k' := by
  rw [merge_eq, mergeEntries_eq_foldlM] at h
  obtain ⟨_, _, _, _, _, _, h1⟩ := foldlM_error_split h
  exact ⟨_, ((insert_error_iff _ _ _ _ _ _).1 h1).1⟩

/-- Exact error: if the entries of `other` before the offending one merge fine, the error
names exactly `k0`. -/
theorem const_then_write_fails_exact (m other m1 : Mapping) (k k0 : Key) (v old : Value)
    (pre post : List (Key × Value))
    (hk : k0 ∈ m.ck) (hl : lookup k0 m.es = some old)
    (hes : other.es = pre ++ (k, v) :: post) (hs : k.stripPrefix.1 = k0)
    (hpre : m.mergeEntries other.ck other.ok pre = .ok m1) :
    m.merge other = .error (.constKey k0) := by
  rw [merge_eq, hes, mergeEntries_append, hpre]
  dsimp only
  rw [mergeEntries_cons]
  have hk1 : k0 ∈ m1.ck := mergeEntries_ck_mono _ _ _ hpre hk
  have hp1 : k0 ∈ m1.es.map Prod.fst :=
    mergeEntries_keys_mono _ _ _ hpre (lookup_isSome_iff.1 (by simp [hl]))
  obtain ⟨w, hw⟩ := Option.isSome_iff_exists.1 (lookup_isSome_iff.2 hp1)
  rw [insert_const_rejects m1 k k0 v w _ _ hs hw hk1]

/-- If `k0` is constant and present in the target and `other` has *any* entry whose stripped
key is `k0` (plain, `=k0` or `~k0`), the merge fails. -/
theorem const_then_write_fails (m other : Mapping) (k k0 : Key) (v old : Value)
    (hk : k0 ∈ m.ck) (hl : lookup k0 m.es = some old)
    (hmem : (k, v) ∈ other.es) (hs : k.stripPrefix.1 = k0) :
    ∃ e, m.merge other = .error e := by
  obtain ⟨pre, post, hes⟩ := List.append_of_mem hmem
  cases hpre : m.mergeEntries other.ck other.ok pre with
  | error e => exact ⟨e, by rw [merge_eq, hes, mergeEntries_append, hpre]⟩
  | ok m1 => exact ⟨_, const_then_write_fails_exact m other m1 k k0 v old pre post hk hl hes hs hpre⟩

/-- … and the failure is a constant-key rejection. -/
theorem const_then_write_fails_constKey (m other : Mapping) (k k0 : Key) (v old : Value)
    (hk : k0 ∈ m.ck) (hl : lookup k0 m.es = some old)
    (hmem : (k, v) ∈ other.es) (hs : k.stripPrefix.1 = k0) :
    ∃ k', m.merge other = .error (.constKey k') := by
  obtain ⟨e, he⟩ := const_then_write_fails m other k k0 v old hk hl hmem hs
  obtain ⟨k', hk'⟩ := merge_error_is_constKey m other e he
  exact ⟨k', by rw [he, hk']⟩

/-- Exact error for a single-entry `other`. -/
theorem const_then_write_fails_single (m other : Mapping) (k k0 : Key) (v old : Value)
    (hk : k0 ∈ m.ck) (hl : lookup k0 m.es = some old)
    (hes : other.es = [(k, v)]) (hs : k.stripPrefix.1 = k0) :
    m.merge other = .error (.constKey k0) :=
  const_then_write_fails_exact m other m k k0 v old [] [] hk hl (by simpa using hes) hs rfl

/-! ### 6. Siblings are not affected -/

/-- An insert for stripped key `k0` leaves the value, the constant flag and the override flag
of every other key `k1` unchanged. -/
theorem siblings_unaffected (m m' : Mapping) (k k0 k1 : Key) (v : Value) (fc fo : Bool)
    (hs : k.stripPrefix.1 = k0) (hne : k1 ≠ k0) (h : m.insertImpl k v fc fo = .ok m') :
    lookup k1 m'.es = lookup k1 m.es ∧ (k1 ∈ m'.ck ↔ k1 ∈ m.ck) ∧ (k1 ∈ m'.ok ↔ k1 ∈ m.ok) := by
  subst hs
  exact ⟨insertImpl_lookup_ne h hne, insertImpl_ck_ne h hne, insertImpl_ok_ne h hne⟩

/-! ### 7. A null layer lifts everything, constants included -/

/-- Merging `null` over anything (also over a mapping with constant keys) gives `null`. -/
theorem mergeV_null_lifts (self : Value) (st : RState) : mergeV self .null st = .ok .null := by
  simp [mergeV]

/-- Merging anything over `null` gives that thing. -/
theorem mergeNonVl_null (other : Value) (st : RState) : mergeNonVl .null other st = .ok other := rfl

/-! ### Non-vacuity -/

/-- `{a: 1}` with `a` constant. -/
private def mA : Mapping := { es := [(.str "a".toList, .num (.int 1))], ck := [.str "a".toList], ok := [] }

-- a plain, a `~` and a `=` write to the constant key `a` are all rejected
example : mA.insertImpl (.str "a".toList) (.num (.int 2)) false false = .error (.constKey (.str "a".toList)) := by decide +kernel
example : mA.insertImpl (.str "~a".toList) (.num (.int 2)) false false = .error (.constKey (.str "a".toList)) := by decide +kernel
example : mA.insertImpl (.str "=a".toList) (.num (.int 2)) false true = .error (.constKey (.str "a".toList)) := by decide +kernel
-- hypotheses of `insert_const_rejects` are satisfiable
example : (Key.str "~a".toList).stripPrefix.1 = .str "a".toList ∧
    lookup (.str "a".toList) mA.es = some (.num (.int 1)) ∧ Key.str "a".toList ∈ mA.ck := by
  decide +kernel

-- `=b` into `{a: 1}` marks `b` constant, keeps `a` constant, leaves `a`'s value alone
example : ∃ m', mA.insertImpl (.str "=b".toList) .null false false = .ok m' ∧
    Key.str "b".toList ∈ m'.ck ∧ Key.str "a".toList ∈ m'.ck ∧
    lookup (.str "a".toList) m'.es = some (.num (.int 1)) :=
  ⟨{ es := [(.str "a".toList, .num (.int 1)), (.str "b".toList, .null)],
     ck := [.str "a".toList, .str "b".toList] }, by decide +kernel⟩

-- merging `{a: 2}` into `{=a: 1}` fails with the exact error
example : mA.merge { es := [(.str "a".toList, .num (.int 2))] } = .error (.constKey (.str "a".toList)) := by decide +kernel

-- merging `{=b: 2}` (stored: key `b` in `ck`) into `{}` propagates constness
example : ∃ m', ({} : Mapping).merge { es := [(.str "b".toList, .num (.int 2))], ck := [.str "b".toList] } = .ok m' ∧
    Key.str "b".toList ∈ m'.ck :=
  ⟨{ es := [(.str "b".toList, .num (.int 2))], ck := [.str "b".toList] }, by decide +kernel⟩

-- a null layer over a mapping with a constant key
example (st : RState) : mergeV mA.toValue .null st = .ok .null := mergeV_null_lifts _ _

end C09
end Reclass
