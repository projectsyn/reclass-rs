/-
  C15 — An include starting with one or more dots is resolved relative to the directory of
  the including class: one dot means the same directory, each further dot one level up but
  never above the classes root, and nodes resolve relative to the root.

  All statements are about the model functions `absClassName` (`Node::abs_class_name`,
  `src/node/mod.rs`) and `NodeM.ofSrc` (`Node::from_str`), for every location, every name and
  every number of dots.
-/
import Reclass.Lemmas.NamingL
namespace Reclass
namespace C15

/-- A name that does not start with a dot is absolute: it is returned unchanged, whatever
the location of the including class (or node). -/
theorem abs_id_on_absolute (loc : Option (List Str)) (cls : Str) (h : cls.head? ≠ some '.') :
    absClassName loc cls = cls :=
  absClassName_nodot loc h

/-- Every name is `k` dots followed by a remainder that does not start with a dot, and
`splitDots` computes exactly this decomposition; so the two theorems `abs_id_on_absolute`
(`k = 0`) and `abs_relative` (`k ≥ 1`) together cover every input. -/
theorem dots_decomposition (cls : Str) :
    cls = List.replicate (splitDots cls).1 '.' ++ (splitDots cls).2 ∧
    (splitDots cls).2.head? ≠ some '.' :=
  splitDots_spec cls

theorem splitDots_replicate (k : Nat) (r : Str) (h : r.head? ≠ some '.') :
    splitDots (List.replicate k '.' ++ r) = (k, r) :=
  Reclass.splitDots_replicate k h

/-- **Relative includes.** In a class located in directory `segs` (path segments below the
classes root), an include written with `k ≥ 1` dots in front of `r` names the class `r` in
the directory obtained by going up `k - 1` levels from `segs`, stopping at the root
(truncated subtraction): the kept directory segments, each followed by a dot, then `r`. -/
theorem abs_relative (segs : List Str) (k : Nat) (hk : 1 ≤ k) (r : Str) (hr : r.head? ≠ some '.') :
    absClassName (some segs) (List.replicate k '.' ++ r) =
      (segs.take (segs.length - (k - 1))).flatMap (fun s => s ++ ['.']) ++ r := by
  simpa using absClassName_replicate (some segs) k hk hr

/-- The same result written as a dotted path: kept directories and `r`, joined by dots. -/
theorem abs_relative_join (segs : List Str) (k : Nat) (hk : 1 ≤ k) (r : Str) (hr : r.head? ≠ some '.') :
    absClassName (some segs) (List.replicate k '.' ++ r) =
      joinWith ['.'] (segs.take (segs.length - (k - 1)) ++ [r]) := by
  rw [abs_relative segs k hk r hr, flatMap_dot_append]

/-- One dot: the same directory — all of `segs` is kept. -/
theorem abs_one_dot (segs : List Str) (r : Str) (hr : r.head? ≠ some '.') :
    absClassName (some segs) ('.' :: r) = segs.flatMap (fun s => s ++ ['.']) ++ r := by
  have := abs_relative segs 1 (Nat.le_refl 1) r hr
  simpa using this

/-- Each further dot drops exactly one more directory, as long as there is one to drop. -/
theorem abs_one_more_dot (segs : List Str) (d : Str) (k : Nat) (hk : 1 ≤ k) (hle : k ≤ segs.length)
    (r : Str) (hr : r.head? ≠ some '.') :
    absClassName (some (segs ++ [d])) (List.replicate (k + 1) '.' ++ r) =
      absClassName (some segs) (List.replicate k '.' ++ r) := by
  rw [abs_relative _ (k + 1) (by omega) r hr, abs_relative _ k hk r hr]
  congr 2
  simp only [List.length_append, List.length_singleton, Nat.add_sub_cancel]
  rw [List.take_append_of_le_length (by omega)]
  congr 1
  omega

/-- More dots than there are directories above: never above the root — the result is `r`
in the root. -/
theorem abs_past_root (segs : List Str) (k : Nat) (hk : segs.length < k) (r : Str)
    (hr : r.head? ≠ some '.') :
    absClassName (some segs) (List.replicate k '.' ++ r) = r := by
  rw [abs_relative segs k (by omega) r hr]
  have : segs.length - (k - 1) = 0 := by omega
  rw [this]; simp

/-- A node (no location) resolves includes like a class located in the root. -/
theorem abs_none_eq_nil (cls : Str) : absClassName none cls = absClassName (some []) cls :=
  absClassName_none cls

/-- In a node, any number of leading dots refers to the root: the dots are simply dropped. -/
theorem abs_node_is_root (k : Nat) (r : Str) (hr : r.head? ≠ some '.') :
    absClassName none (List.replicate k '.' ++ r) = r := by
  cases k with
  | zero => simpa using abs_id_on_absolute none r hr
  | succ k =>
    rw [abs_none_eq_nil, abs_relative [] (k + 1) (by omega) r hr]
    simp

/-- If the resolved name does not start with a dot (it can only do so below a top-level
directory whose name is empty or starts with a dot: `abs_head_ne_dot` in `Props/C15b`),
resolving it again changes nothing. -/
theorem abs_idempotent (loc : Option (List Str)) (cls : Str)
    (h : (absClassName loc cls).head? ≠ some '.') :
    absClassName loc (absClassName loc cls) = absClassName loc cls :=
  abs_id_on_absolute loc _ h

/-- **Parsing a file makes its includes absolute.** After `Node::from_str` the class list
consists exactly of the absolute forms of the listed includes, without duplicates. -/
theorem ofSrc_classes_absolute (loc : Option (List Str)) (src : ClassSrc) (n : NodeM)
    (h : NodeM.ofSrc loc src = .ok n) :
    (∀ x ∈ n.classes.items, ∃ c ∈ src.classes, x = absClassName loc c) ∧
    (∀ c ∈ src.classes, absClassName loc c ∈ n.classes.items) ∧
    n.classes.items.Nodup := by
  rw [ofSrc_classes_items h]
  refine ⟨?_, ?_, nub_nodup _ _⟩
  · intro x hx
    obtain ⟨c, hc, rfl⟩ := List.mem_map.1 (mem_nub.1 hx).1
    exact ⟨c, (mem_nub.1 hc).1, rfl⟩
  · intro c hc
    refine mem_nub.2 ⟨List.mem_map.2 ⟨c, mem_nub.2 ⟨hc, by simp⟩, rfl⟩, by simp⟩

/-- The class list after parsing, as a list function: deduplicate the raw spellings (first
occurrence wins), make them absolute, deduplicate again. -/
theorem ofSrc_classes_eq (loc : Option (List Str)) (src : ClassSrc) (n : NodeM)
    (h : NodeM.ofSrc loc src = .ok n) :
    n.classes.items = nub [] ((nub [] src.classes).map (absClassName loc)) :=
  ofSrc_classes_items h

/-- **Twin file.** Writing the includes of a file in their absolute form gives the same
parsed node (same class list in the same order, same applications, same parameters) —
provided no absolute form starts with a dot, i.e. resolving again does not change it.
(The first deduplication works on the raw spellings, so two relative spellings of one
class both survive it; the second deduplication removes the later one, which is why the
two files still agree.) -/
theorem ofSrc_twin (loc : Option (List Str)) (src : ClassSrc)
    (hnd : ∀ c ∈ src.classes, (absClassName loc c).head? ≠ some '.') :
    NodeM.ofSrc loc { src with classes := src.classes.map (absClassName loc) } = NodeM.ofSrc loc src := by
  rw [ofSrc_eq, ofSrc_eq]
  simp only
  rw [nub_twin (absClassName loc) src.classes (fun c hc => abs_id_on_absolute loc _ (hnd c hc))]

/-! ### Non-vacuity -/

-- class `a.b.c` (file a/b/c.yml, directory a/b)
example : absClassName (some ["a".toList, "b".toList]) ".x".toList = "a.b.x".toList := by decide +kernel
example : absClassName (some ["a".toList, "b".toList]) "..x".toList = "a.x".toList := by decide +kernel
example : absClassName (some ["a".toList, "b".toList]) "...x".toList = "x".toList := by decide +kernel
example : absClassName (some ["a".toList, "b".toList]) "....x.y".toList = "x.y".toList := by decide +kernel
example : absClassName (some ["a".toList, "b".toList]) "x.y".toList = "x.y".toList := by decide +kernel
example : absClassName none "..x".toList = "x".toList := by decide +kernel

-- the hypotheses of `abs_relative` are satisfiable and the conclusion is the expected text
example : absClassName (some ["a".toList, "b".toList]) (List.replicate 2 '.' ++ "x".toList) = "a.x".toList := by
  rw [abs_relative _ 2 (by decide) _ (by decide)]; decide +kernel

-- two spellings of one class are both kept by the first deduplication and merged by the second
example : (NodeM.ofSrc (some ["a".toList]) { classes := [".x".toList, "a.x".toList, "b".toList] }).toOption.map
    (fun n => n.classes.items) = some ["a.x".toList, "b".toList] := by decide +kernel

-- the hypothesis of `ofSrc_twin` is needed: below a directory `.h` the absolute form `.h.x`
-- of `.x` is itself read as a relative include
example : absClassName (some [".h".toList]) ".x".toList = ".h.x".toList ∧
    absClassName (some [".h".toList]) ".h.x".toList = ".h.h.x".toList := by decide +kernel

end C15
end Reclass
